/-
  C04, the grouping part: the recursive-descent expression parser of parse.go (modelled production
  by production in Model/Parse.lean and compared with the real parser tree by tree on every run,
  stream `parsetree`) maps every derivation of the documented, stratified expression grammar
  (Model/ExprGrammar.lean) to the promised tree:

    unary sign binds tightest, then * / %, then + -, then < <= > >=, then == !=, then the logical
    connectives (with `!` taking a whole comparison as operand), then ?: ; chains of one level fold
    to the left, ?: nests to the right, parentheses override and leave no node of their own.

  For all derivations, all spellings of the operators, all fuels above a bound linear in the size,
  all parser states whose next item is the first item of the spelling.  Items sit at position 0,
  so every node is on line 1 and the statement is about grouping only (lines are compared by the
  correspondence).
-/
import JetVerif.Lemmas.ParseLadder

namespace JetVerif.Props.C04P
open JetVerif JetVerif.Parse JetVerif.ExprGrammar

/-- **Precedence and associativity.**  `u` is any item that cannot continue an expression
    (`stop7`: not an operator, `?`, a field, `(`, `[` or space), e.g. the closing delimiter. -/
theorem precedence_and_associativity (cfg : Cfg) (c : E7) (n : Nat) (ctx : String) (b : PSt) (x u : Item)
    (rest : List Item) (hn : n ≥ 10 * sz7 c) (hu : stop7 u) :
    parseExpression cfg n ctx (mkS b (toks7 c ++ u :: rest) x 0) = .ok (tree7 c, u) (mkS b rest u 0) :=
  ladder7 cfg c n ctx _ b u rest hn hu ((ehead7 c).starts b x _)

/-- the same when the first item of the spelling has been pushed back (`t.backup()` before
    `t.expression(…)`, as `action`, `parseArguments`, `parseControl` … do) -/
theorem precedence_after_backup (cfg : Cfg) (c : E7) (n : Nat) (ctx : String) (b : PSt) (t u : Item)
    (ts rest : List Item) (hn : n ≥ 10 * sz7 c) (hu : stop7 u) (hl : toks7 c ++ u :: rest = t :: ts) :
    parseExpression cfg n ctx (mkS b ts t 1) = .ok (tree7 c, u) (mkS b rest u 0) :=
  ladder7 cfg c n ctx _ b u rest hn hu (((ehead7 c).good.append _).starts_pushed b hl)

/-- `t.expression(context, …)`: the expression is read and its terminator is pushed back -/
theorem expression_reads_one_derivation (cfg : Cfg) (c : E7) (n : Nat) (ctx as : String) (b : PSt) (x u : Item)
    (rest : List Item) (hn : n ≥ 10 * sz7 c + 1) (hu : stop7 u) :
    expression cfg n ctx as (mkS b (toks7 c ++ u :: rest) x 0) = .ok (tree7 c) (mkS b rest u 1) := by
  obtain ⟨m, rfl⟩ : ∃ m, n = m + 1 := ⟨n - 1, by omega⟩
  rw [expression]
  simp [bind_apply, precedence_and_associativity cfg c m ctx b x u rest (by omega) hu]

/-- tie A: the range tests on the regenerated item-type order select exactly `* / %` and `> >= < <=` -/
theorem mul_range_is_mul_div_mod (t : Tok) :
    (Tok.mul.code ≤ t.code ∧ t.code ≤ Tok.mod.code) ↔ (t = Tok.mul ∨ t = Tok.div ∨ t = Tok.mod) := Tok.mul_range t
theorem rel_range_is_relational (t : Tok) :
    (Tok.great.code ≤ t.code ∧ t.code ≤ Tok.lessEquals.code) ↔
      (t = Tok.great ∨ t = Tok.greatEquals ∨ t = Tok.less ∨ t = Tok.lessEquals) := Tok.rel_range t

/-! ### readable instances (and non-vacuity: the hypotheses are met by concrete derivations) -/

section examples
def a0 (s : String) : E0 := .atom (str s)
def a1 (s : String) : E1 := .base (a0 s)
def a2 (s : String) : E2 := .one (a1 s)
def a3 (s : String) : E3 := .one (a2 s)
def up4 (e : E3) : E4 := .one e
def up5 (e : E3) : E5 := .one (up4 e)
def up6 (e : E3) : E6 := .one (.plain (up5 e))
def up7 (e : E3) : E7 := .one (up6 e)
def idt (s : String) : PExpr := .ident 1 (str s)
def rd : Item := it Tok.rightDelim (str "}}")

theorem stop7_rightDelim : stop7 rd := stop7_it _ _ (by decide)

/-- `a + b * c` is `a + (b * c)` -/
def e_add_mul : E7 := up7 (.more (a3 "a") .add (str "+") (.more (a2 "b") .mul (str "*") (a1 "c")))
example : tree7 e_add_mul =
    .binary .add 1 Tok.add (some (idt "a")) (.binary .mul 1 Tok.mul (some (idt "b")) (idt "c")) := rfl
example : (toks7 e_add_mul).map (·.typ) = [Tok.identifier, Tok.add, Tok.identifier, Tok.mul, Tok.identifier] := rfl

/-- `a - b - c` is `(a - b) - c` -/
def e_sub_sub : E7 := up7 (.more (.more (a3 "a") .minus (str "-") (a2 "b")) .minus (str "-") (a2 "c"))
example : tree7 e_sub_sub =
    .binary .add 1 Tok.minus (some (.binary .add 1 Tok.minus (some (idt "a")) (idt "b"))) (idt "c") := rfl

/-- `-a * b` is `(-a) * b` -/
def e_neg_mul : E7 := up7 (.one (.more (.one (.sign .minus (str "-") (a0 "a"))) .mul (str "*") (a1 "b")))
example : tree7 e_neg_mul =
    .binary .mul 1 Tok.mul (some (.binary .add 1 Tok.minus none (idt "a"))) (idt "b") := rfl

/-- `a ? b : c ? d : e` is `a ? b : (c ? d : e)` -/
def e_tern : E7 := .tern (up6 (a3 "a")) (up7 (a3 "b")) (.tern (up6 (a3 "c")) (up7 (a3 "d")) (up7 (a3 "e")))
example : tree7 e_tern = .ternary 1 (idt "a") (idt "b") (.ternary 1 (idt "c") (idt "d") (idt "e")) := rfl

/-- `(a + b) * c` : parentheses override and leave no node -/
def e_paren : E7 := up7 (.one (.more (.one (.base (.paren (up7 (.more (a3 "a") .add (str "+") (a2 "b")))))) .mul (str "*") (a1 "c")))
example : tree7 e_paren =
    .binary .mul 1 Tok.mul (some (.binary .add 1 Tok.add (some (idt "a")) (idt "b"))) (idt "c") := rfl

/-- the theorem applied: the parser model on `a + b * c }}` -/
example (cfg : Cfg) (b : PSt) (x : Item) :
    parseExpression cfg 200 "command" (mkS b (toks7 e_add_mul ++ [rd]) x 0) =
      .ok (.binary .add 1 Tok.add (some (idt "a")) (.binary .mul 1 Tok.mul (some (idt "b")) (idt "c")), rd) (mkS b [] rd 0) :=
  precedence_and_associativity cfg e_add_mul 200 "command" b x rd [] (by decide) stop7_rightDelim
end examples

end JetVerif.Props.C04P
