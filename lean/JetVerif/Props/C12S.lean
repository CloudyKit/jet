/-
  C12 (scope part) — the scope bookkeeping of the interpreter never panics: "an error never unwinds
  past the scope it was raised in".

  `Template.Execute` re-panics runtime panics (`crash` in the model).  The scope primitives
  (`newScope`, `releaseScope`, `letVar`, `setBlocks`, `setValue`, `letGlobal`) panic on an empty
  chain (nil `*scope`), on a scope that was never allocated, and on a nil variable map.  None of
  these outcomes is reachable from the runtime `Execute` starts from: frames are only appended or
  updated in place, and on EVERY outcome of every piece of the interpreter the scope chain still
  ends in the chain that piece started from (Lemmas/EvalScope.lean, `Scoped`, proved for every
  function of the evaluator and every fuel).
-/
import JetVerif.Lemmas.EvalInv
import JetVerif.Lemmas.EvalScope

namespace JetVerif.Props.C12S
open JetVerif JetVerif.Eval

/-- **The scope primitives never panic**, and however the list ends the scope chain still ends in
    the chain it started from.  For every fuel, environment, statement list and well-formed
    runtime.  (`WF`, the output invariant of Lemmas/EvalInv.lean, is not needed.) -/
theorem scope_bookkeeping_never_panics (fuel : Nat) (env : Env) (l : List Stmt) (rt : RT) (h : SWF rt)
    (_hw : WF rt) :
    match (recAt fuel).execList env l rt with
    | .ok _ rt' => rt'.scope = rt.scope ∧ SWF rt'
    | .err _ rt' => ∃ xs, rt'.scope = xs ++ rt.scope
    | .crash msg rt' => ¬ ScopeMsg msg ∧ ∃ xs, rt'.scope = xs ++ rt.scope
    | _ => True := by
  have hp := ((recScoped_recAt fuel).execList env l).post rt h
  cases hr : (recAt fuel).execList env l rt with
  | ok v rt' => rw [hr] at hp; exact ⟨hp.2, hp.1.swf⟩
  | err e rt' => rw [hr] at hp; exact hp.suffix
  | crash m rt' => rw [hr] at hp; exact ⟨hp.1, hp.2.suffix⟩
  | fuel => trivial
  | unsupported w => trivial

/-- the runtime is well-formed again after a failure too: a caller that recovers (`try`, `isset`,
    the content closure's deferred function) continues from a sound runtime -/
theorem runtime_is_well_formed_after_failure (fuel : Nat) (env : Env) (l : List Stmt) (rt rt' : RT) (e : Err)
    (h : SWF rt) (hr : (recAt fuel).execList env l rt = .err e rt') :
    SWF rt' ∧ rt.frames.length ≤ rt'.frames.length := by
  have hp := ((recScoped_recAt fuel).execList env l).post rt h
  rw [hr] at hp
  exact ⟨hp.swf, hp.len⟩

/-- the runtime `Template.Execute` starts from is well-formed -/
theorem initRT_swf (t : Tmpl) (vars : List (Bytes × Val)) (data : Val) : SWF (initRT t vars data) :=
  -- the chain `[0]`, one frame with a variable map, no content closure
  ⟨List.cons_ne_nil _ _, List.forall_mem_singleton.mpr Nat.zero_lt_one, List.forall_mem_singleton.mpr rfl, nofun⟩

/-- **Execute never re-panics because of its scope bookkeeping.** -/
theorem execute_never_panics_in_scope_bookkeeping (fuel : Nat) (env : Env) (t : Tmpl)
    (vars : List (Bytes × Val)) (data : Val) (msg : String) (out : List Chunk) :
    execute fuel env t vars data = .crash msg out → ¬ ScopeMsg msg := by
  intro h
  obtain ⟨root, rt', _, hr⟩ := execute_crash h
  have hp := ((recScoped_recAt fuel).execList env root.root).post _ (initRT_swf t vars data)
  rw [hr] at hp
  exact hp.1

/-- **`defer st.releaseScope()` never runs on an empty chain.**  From a well-formed runtime
    `st.newScope()` succeeds, and whatever the body does (finish, panic with an error, panic with a
    runtime error) the chain the deferred function sees is the pushed scope on top of the
    caller's chain, or deeper: `popScope`'s identity-on-`[]` case is never exercised, and what is
    left after the pop still ends in the caller's chain. -/
theorem deferred_releaseScope_sees_pushed_scope {α} (body : M α) (hb : Scoped body) (rt : RT) (h : SWF rt) :
    ∃ rt1, newScope rt = .ok () rt1 ∧ rt1.scope = rt.frames.length :: rt.scope ∧
      withNewScopeD body rt = deferred popScope body rt1 ∧
      match body rt1 with
      | .ok _ rt2 | .err _ rt2 | .crash _ rt2 =>
        ∃ xs, rt2.scope = xs ++ rt.frames.length :: rt.scope
      | _ => True := by
  obtain ⟨rt1, hn, h1, hs1, _⟩ := newScope_ok h
  refine ⟨rt1, hn, hs1, ?_, ?_⟩
  · unfold withNewScopeD; rw [bind_ok hn]
  · have hp := hb.post rt1 h1
    cases hr : body rt1 with
    | ok a rt2 => rw [hr] at hp; exact ⟨[], by rw [hp.2, hs1]; rfl⟩
    | err e rt2 => rw [hr] at hp; obtain ⟨xs, hx⟩ := hp.suffix; exact ⟨xs, by rw [hx, hs1]⟩
    | crash s rt2 => rw [hr] at hp; obtain ⟨xs, hx⟩ := hp.2.suffix; exact ⟨xs, by rw [hx, hs1]⟩
    | fuel => trivial
    | unsupported w => trivial

/-- every outcome of `st.newScope(); defer st.releaseScope(); body` has a non-empty chain that ends
    in the caller's -/
theorem withNewScopeD_keeps_callers_chain {α} (body : M α) (hb : Scoped body) (rt : RT) (h : SWF rt) :
    match withNewScopeD body rt with
    | .ok _ rt' => rt'.scope = rt.scope
    | .err _ rt' | .crash _ rt' => rt'.scope ≠ [] ∧ ∃ xs, rt'.scope = xs ++ rt.scope
    | _ => True := by
  have hp := (scoped_withNewScopeD hb).post rt h
  cases hr : withNewScopeD body rt with
  | ok a rt' => rw [hr] at hp; exact hp.2
  | err e rt' => rw [hr] at hp; exact ⟨hp.swf.nonempty, hp.suffix⟩
  | crash s rt' => rw [hr] at hp; exact ⟨hp.2.swf.nonempty, hp.2.suffix⟩
  | fuel => trivial
  | unsupported w => trivial

/-- `setValue`'s two crash outcomes are unreachable from ANY runtime, well-formed or not: what
    `lookupChain` finds is an allocated frame with a non-nil map -/
theorem setValue_never_crashes (n : Bytes) (v : Val) (rt rt' : RT) (msg : String) :
    setValue n v rt ≠ .crash msg rt' := by
  rcases setValue_cases n v rt with ⟨_, e⟩ | ⟨_, _, _, _, _, _, _, e⟩
  · rw [e]; exact nofun
  · rw [e]; exact nofun

/-! ### the hypothesis matters, and the predicates are not empty -/

/-- without `SWF` the primitives do crash with a `ScopeMsg`: `releaseScope` on an empty chain -/
theorem releaseScope_on_empty_chain_panics :
    ∃ msg, releaseScope ({} : RT) = .crash msg {} ∧ ScopeMsg msg :=
  ⟨"nil pointer dereference (releaseScope on nil scope)", rfl, by simp [ScopeMsg]⟩

/-- ... and `letVar` on a frame whose variable map is nil -/
theorem letVar_on_nil_map_panics (n : Bytes) (v : Val) :
    ∃ msg rt', letVar n v { frames := [{ vars := none, blocks := [] }], scope := [0] } = .crash msg rt' ∧
      ScopeMsg msg :=
  ⟨"assignment to entry in nil map", _, rfl, by simp [ScopeMsg]⟩

/-- non-vacuity: a concrete well-formed runtime (two frames, a chain of two scopes, a content
    closure capturing the outer scope), and `ScopeMsg` holds of a concrete string and fails of
    another -/
example : SWF { frames := [{ vars := some [], blocks := [] }, { vars := some [], blocks := [] }],
                scope := [1, 0], content := some (.mk [] [0] none) } := by
  refine ⟨by simp, ?_, ?_, ?_⟩
  · intro id hid; simp at hid ⊢; omega
  · intro f hf; simp at hf; rw [hf]; rfl
  · intro c hc
    simp at hc
    subst hc
    exact (ClosureOK.mk_iff _ _ _ _).mpr ⟨by simp, by simp, by simp⟩

example : ScopeMsg "dangling scope" := by simp [ScopeMsg]
example : ¬ ScopeMsg "index out of range" := by simp [ScopeMsg]

/-- the hypothesis of `scope_bookkeeping_never_panics` holds of what `Execute` starts from (`initRT_swf`:
    whatever the template, variables and data) -/
example (t : Tmpl) : SWF (initRT t [] .invalid) := initRT_swf t [] .invalid

end JetVerif.Props.C12S
