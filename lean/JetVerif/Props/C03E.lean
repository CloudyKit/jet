/-
  C03, end to end for templates without actions — "Text outside actions and comments appears in
  the output byte for byte and in source order ... A comment contributes nothing."

  Props/C03.lean proves the lexer's part (the events tile the source, token values are verbatim
  source slices).  Here the property is carried through the parser model and the evaluator model
  for templates that consist of text and comments only, i.e. whose item list is a list of text
  items followed by the end-of-file item:

    lexer items  --parseTemplate-->  one text node per text item  --erasure-->  text statements
                 --execute-->        one `.lit` chunk per text item, same bytes, same order.

  The erasure of text nodes (`eraseTexts`: `PStmt.text l b ↦ Stmt.text ⟨path, l⟩ b`) restates the
  text case of `Driver/ExecSrc.lean`'s `stmtA`, which is a `partial def` and therefore opaque.
  Lemmas: JetVerif/Lemmas/TextOnly.lean.
-/
import JetVerif.Lemmas.TextOnly
import JetVerif.Lemmas.LexEof
import JetVerif.Props.C03

namespace JetVerif.Props.C03E
open JetVerif JetVerif.Lex JetVerif.TextOnly

/-! ### 1. the parser -/

/-- **The parser turns text items into text nodes, one for one.**  For an item list that is text
    items `ts` (position, value) followed by end of file, all positioned inside the source:
    `parseTemplate` succeeds with any fuel ≥ 1 and returns exactly one `PStmt.text` per text item, in
    order, with the item's bytes and the line of the item's position (`lineAt input p` is
    `1 + count of "\n" in input[:p]`).  The whitespace-only leading text items, which the
    `extends`/`import` prologue loop skips, are not lost: they are put back in front. -/
theorem text_items_become_text_nodes (cfg : Parse.Cfg) (fuel : Nat) (input name : Bytes)
    (ts : List (Int × Bytes)) (e : Int) (ev : Bytes)
    (hpos : ∀ x ∈ ts, 0 ≤ x.1 ∧ x.1 ≤ input.length) (he : 0 ≤ e ∧ e ≤ input.length) :
    Parse.parseTemplate cfg (fuel + 1)
        { input := input, name := name,
          toks := ts.map (fun x => ⟨Tok.text, x.1, x.2⟩) ++ [⟨Tok.eof, e, ev⟩] } =
      .ok (lineAt input (firstPos ts e), ts.map fun x => Parse.PStmt.text (lineAt input x.1) x.2)
        (endSt input name e ev) :=
  parseTemplate_texts cfg fuel input name ts e ev hpos he

/-- the same as a statement about the bytes only -/
theorem text_nodes_carry_the_items_bytes (cfg : Parse.Cfg) (fuel : Nat) (input name : Bytes)
    (ts : List (Int × Bytes)) (e : Int) (ev : Bytes)
    (hpos : ∀ x ∈ ts, 0 ≤ x.1 ∧ x.1 ≤ input.length) (he : 0 ≤ e ∧ e ≤ input.length) :
    ∃ rootLine nodes s',
      Parse.parseTemplate cfg (fuel + 1)
        { input := input, name := name,
          toks := ts.map (fun x => ⟨Tok.text, x.1, x.2⟩) ++ [⟨Tok.eof, e, ev⟩] } = .ok (rootLine, nodes) s' ∧
      nodes.map (fun n => match n with | .text _ b => some b | _ => none) = ts.map (fun x => some x.2) ∧
      s'.ext = none ∧ s'.imports = [] ∧ s'.passed = [] := by
  refine ⟨_, _, _, text_items_become_text_nodes cfg fuel input name ts e ev hpos he, ?_, rfl, rfl, rfl⟩
  simp [List.map_map, Function.comp_def]

/-! ### 2. the evaluator -/

/-- **A list of text statements writes its bytes and does nothing else.**  For every fuel ≥ 1:
    `executeList` succeeds, returns no value, and appends one chunk per statement — tagged `.lit`,
    i.e. not passed through any escaper — to the current destination `k` (sinks are most recent
    first, hence the `reverse`).  Every other sink, the scope chain, the context and the block content
    are unchanged. -/
theorem text_statements_write_their_bytes (n : Nat) (env : Eval.Env) (stmts : List Stmt) (rt : Eval.RT)
    (k : Nat) (htext : ∀ s ∈ stmts, isTextStmt s = true) (hk : rt.writer.idx = some k) :
    ∃ rt', (Eval.recAt (n + 1)).execList env stmts rt = .ok .invalid rt' ∧
      rt'.sink k = (stmts.reverse.map fun s => ⟨.lit, .lit (stmtBytes s)⟩) ++ rt.sink k ∧
      (∀ j, j ≠ k → rt'.sink j = rt.sink j) ∧
      rt'.scope = rt.scope ∧ rt'.ctx = rt.ctx ∧ rt'.content = rt.content := by
  refine ⟨_, execList_texts n env stmts rt htext, ?_⟩
  simp only [Eval.appendTo, hk, ite_true, List.map_reverse, and_self, and_true]
  refine ⟨rfl, fun j hj => ?_⟩
  simp [hj]

/-! ### 3. lexer, parser and evaluator together -/

/-- a token of a finished lexer run lies inside the source and its value is the source slice
    that starts at its position (Props/C03 `token_values_are_source_slices`) -/
theorem token_in_source (d : Delims) (input : Bytes) (evs : List Event) (t : Tok) (p : Int) (v : Bytes)
    (hlex : lexRun d input = .done evs) (ht : t ≠ Tok.error) (hm : (t, p, v) ∈ tokensOf evs) :
    0 ≤ p ∧ p ≤ input.length ∧ ∃ q, p ≤ q ∧ q ≤ input.length ∧ v = (input.drop p.toNat).take (q - p).toNat := by
  simp only [tokensOf, List.mem_filterMap] at hm
  obtain ⟨ev, hev, hv⟩ := hm
  cases ev with
  | emit t a b w =>
    simp only [Option.some.injEq, Prod.mk.injEq] at hv
    obtain ⟨rfl, rfl, rfl⟩ := hv
    have h := C03.token_values_are_source_slices d input _ a b w (by rw [hlex]; exact hev)
    exact ⟨h.1, by omega, b, h.2.1, h.2.2.1, h.2.2.2⟩
  | ignore k a b => simp at hv
  | err a m => simp only [Option.some.injEq, Prod.mk.injEq] at hv; exact absurd hv.1.symm ht

/-- **A template that consists of text and comments only renders exactly its text items, verbatim,
    in order, untagged by any escaper.**  If the lexer finishes and hands the parser text tokens
    `ts` (position, value) followed by the end-of-file token, then, for every literal table and loader
    (`cfg`), every template name and path:

    * `Set.parse` succeeds; the template has no `extends`, no imports, no blocks;
    * its root is one text node per text token; the erasure maps it to text statements `stmts`;
    * executing that template — any fuel ≥ 1, any loader contents and escaper (`env`), any variables,
      any data — succeeds, logs nothing, and its output is exactly one `.lit` chunk per text token,
      in source order, carrying the token's bytes: as one byte string, the concatenation of the text
      tokens' values;
    * and each of these values is the slice of the source at the token's position (so the output is
      the source minus the ranges the lexer dropped; with no action in the source these are the
      comments). -/
theorem action_free_template_renders_its_text (cfg : Parse.Cfg) (d : Delims) (name path input : Bytes)
    (evs : List Event) (ts : List (Int × Bytes)) (e : Int) (ev : Bytes)
    (hlex : lexRun d input = .done evs)
    (hshape : tokensOf evs = ts.map (fun x => (Tok.text, x.1, x.2)) ++ [(Tok.eof, e, ev)]) :
    ∃ t stmts,
      Parse.parseSource cfg d name input = .ok t ∧
      t.ext = none ∧ t.imports = [] ∧ t.passed = [] ∧
      t.root = ts.map (fun x => Parse.PStmt.text (lineAt input x.1) x.2) ∧
      eraseTexts path t.root = some stmts ∧
      (∀ (fuel : Nat) (env : Eval.Env) (vars : List (Bytes × Val)) (data : Val),
        Eval.execute (fuel + 1) env
            { name := name, ext := t.ext, imports := t.imports, blocks := [], root := stmts } vars data =
          .ok (ts.map fun x => ⟨.lit, .lit x.2⟩) [] ∧
        outBytes (ts.map fun x => ⟨.lit, .lit x.2⟩) = (ts.map fun x => x.2).flatten) ∧
      ∀ x ∈ ts, ∃ q, 0 ≤ x.1 ∧ x.1 ≤ q ∧ q ≤ input.length ∧
        x.2 = (input.drop x.1.toNat).take (q - x.1).toNat := by
  have htok := fun x (hx : x ∈ ts) => token_in_source d input evs Tok.text x.1 x.2 hlex (by simp)
    (by rw [hshape]; exact List.mem_append_left _ (List.mem_map.mpr ⟨x, hx, rfl⟩))
  have hpos : ∀ x ∈ ts, InRange input x.1 := fun x hx => ⟨(htok x hx).1, (htok x hx).2.1⟩
  have he : InRange input e := by
    have := token_in_source d input evs Tok.eof e ev hlex (by simp) (by rw [hshape]; simp)
    exact ⟨this.1, this.2.1⟩
  have hitems : Parse.itemsOf evs = itemsT ts e ev := by
    simp [Parse.itemsOf, hshape, itemsT, List.map_map, Function.comp_def, textItem, eofItem]
  refine ⟨{ name := name, ext := none, imports := [], passed := [], rootLine := lineAt input (firstPos ts e),
             root := ts.map (textNode input) }, _, ?_, rfl, rfl, rfl, rfl, eraseTexts_textNodes path input ts, ?_, ?_⟩
  · simp only [Parse.parseSource, hlex, hitems]
    exact parseItems_texts cfg input name ts e ev hpos he
  · intro fuel env vars data
    constructor
    · rw [execute_texts fuel env name [] _ vars data
        (by intro s hs; obtain ⟨x, _, rfl⟩ := List.mem_map.mp hs; rfl)]
      simp [List.map_map, Function.comp_def, stmtBytes, litChunk]
    · have := outBytes_litChunks (ts.map fun x => x.2)
      simpa [List.map_map, Function.comp_def, litChunk] using this
  · intro x hx
    obtain ⟨h0, _, q, h1, h2, h3⟩ := htok x hx
    exact ⟨q, h0, h1, h2, h3⟩

/-- the hypothesis on the tokens, stated by types: if every item the lexer hands over is of type
    text or end-of-file and the last one is end-of-file, the items are text items followed by
    end-of-file (the lexer sends nothing after end-of-file: Lemmas/LexEof) -/
theorem text_or_eof_items_have_the_shape (d : Delims) (input : Bytes) (evs : List Event)
    (l : List Parse.Item) (last : Parse.Item)
    (hlex : lexRun d input = .done evs) (hsplit : Parse.itemsOf evs = l ++ [last])
    (hlast : last.typ = Tok.eof) (htypes : ∀ t ∈ l, t.typ = Tok.text ∨ t.typ = Tok.eof) :
    ∃ ts : List (Int × Bytes),
      tokensOf evs = ts.map (fun x => (Tok.text, x.1, x.2)) ++ [(Tok.eof, last.pos, last.val)] := by
  have hl := lexRun_items_eof_last d input evs hlex
  rw [hsplit] at hl
  obtain ⟨ts, hts⟩ := shape_of_types l last hl hlast htypes
  refine ⟨ts, ?_⟩
  rw [← hsplit] at hts
  have hinj : (tokensOf evs).map (fun (t, a, v) => ({ typ := t, pos := a, val := v } : Parse.Item)) =
      (ts.map (fun x => (Tok.text, x.1, x.2)) ++ [(Tok.eof, last.pos, last.val)]).map
        (fun (t, a, v) => ({ typ := t, pos := a, val := v } : Parse.Item)) := by
    rw [show (tokensOf evs).map _ = Parse.itemsOf evs from rfl, hts]
    simp [itemsT, List.map_map, Function.comp_def, textItem, eofItem]
  exact (List.map_inj_right (fun a b h => by
    obtain ⟨t, p, v⟩ := a; obtain ⟨t', p', v'⟩ := b
    simp only [Parse.Item.mk.injEq] at h
    obtain ⟨rfl, rfl, rfl⟩ := h; rfl)).mp hinj

/-! ### 4. connection with the tiling theorem of Props/C03 -/

/-- the source with the dropped ranges cut out: the source slices `input[a:b]` of the ranges the
    lexer emitted (as opposed to ignored), in order -/
def keptSource (input : Bytes) : List Event → Bytes
  | [] => []
  | .emit _ a b _ :: rest => (input.drop a.toNat).take (b - a).toNat ++ keptSource input rest
  | _ :: rest => keptSource input rest

theorem keptSource_eq_token_values (input : Bytes) : ∀ (evs : List Event) (frm : Int),
    C03.Tiles input frm evs → (∀ t ∈ tokensOf evs, t.1 ≠ Tok.error) →
    keptSource input evs = ((tokensOf evs).map fun t => t.2.2).flatten := by
  intro evs
  induction evs with
  | nil => intro _ _ _; rfl
  | cons ev rest ih =>
    intro frm ht hne
    cases ev with
    | emit t a b v =>
      obtain ⟨_, hs, hrest⟩ := ht
      have hv : v = (input.drop a.toNat).take (b - a).toNat := (slice_some hs).2.2.2
      have := ih b hrest (fun t ht => hne t (by simp [tokensOf] at ht ⊢; exact .inr ht))
      simp [keptSource, tokensOf, ← hv] at this ⊢
      rw [this]
    | ignore k a b =>
      have := ih b ht.2 (fun t ht => hne t (by simpa [tokensOf] using ht))
      simpa [keptSource, tokensOf] using this
    | err a m => exact absurd rfl (hne (Tok.error, a, m.toUTF8.toList) (by simp [tokensOf]))

/-- **The output of an action-free template is the source with the dropped ranges cut out.**  The
    lexer's emit and ignore events tile the source (Props/C03 `events_tile_the_source`, here for any
    delimiter record); what the template renders — the concatenation of its text tokens' values,
    by `action_free_template_renders_its_text` — followed by the value of the end-of-file token
    (the slice of its own range) is exactly the concatenation of the source slices of the emitted
    ranges: no byte of an ignored range (a comment) is in it, no byte of an emitted range is missing,
    nothing is reordered. -/
theorem action_free_output_is_the_source_minus_dropped_ranges (d : Delims) (input : Bytes)
    (evs : List Event) (ts : List (Int × Bytes)) (e : Int) (ev : Bytes)
    (hlex : lexRun d input = .done evs)
    (hshape : tokensOf evs = ts.map (fun x => (Tok.text, x.1, x.2)) ++ [(Tok.eof, e, ev)]) :
    C03.Tiles input 0 evs ∧
    outBytes (ts.map fun x => ⟨.lit, .lit x.2⟩) ++ ev = keptSource input evs := by
  have htiles : C03.Tiles input 0 evs := by
    have h := C03.lexRun_tiles d input
    rwa [hlex] at h
  refine ⟨htiles, ?_⟩
  rw [keptSource_eq_token_values input evs 0 htiles (by
    intro t ht
    rw [hshape] at ht
    simp only [List.mem_append, List.mem_map, List.mem_singleton] at ht
    rcases ht with ⟨x, _, rfl⟩ | rfl <;> simp)]
  have := outBytes_litChunks (ts.map fun x => x.2)
  simp only [List.map_map, Function.comp_def, litChunk] at this
  simp [hshape, this, List.map_map, Function.comp_def]

/-! ### the hypotheses are satisfiable -/

/-- `a{*c*}b` with the default delimiters: two text tokens around a dropped comment -/
example : lexRun defaultDelims [97, 123, 42, 99, 42, 125, 98] =
    .done [.emit Tok.text 0 1 [97], .ignore .comment 1 6, .emit Tok.text 6 7 [98], .emit Tok.eof 7 7 []] := by
  rfl

example : tokensOf [.emit Tok.text 0 1 [97], .ignore .comment 1 6, .emit Tok.text 6 7 [98], .emit Tok.eof 7 7 []] =
    [((0 : Int), [(97 : UInt8)]), (6, [98])].map (fun x => (Tok.text, x.1, x.2)) ++ [(Tok.eof, 7, [])] := by
  decide

/-- so the theorem applies to `a{*c*}b`: executing it yields the chunks `a`, `b` -/
example (cfg : Parse.Cfg) (name path : Bytes) :=
  action_free_template_renders_its_text cfg defaultDelims name path [97, 123, 42, 99, 42, 125, 98] _
    [((0 : Int), [(97 : UInt8)]), (6, [98])] 7 [] rfl (by decide)

end JetVerif.Props.C03E
