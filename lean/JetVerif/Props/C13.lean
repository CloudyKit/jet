/-
  C13 — try is all-or-nothing and leaves no trace of a failed body.
  Model: `executeTry`, `tryStart`, `tryReset`, `tryCatch` in JetVerif/Model/Eval.lean.
-/
import JetVerif.Lemmas.EvalGood

namespace JetVerif.Props.C13
open JetVerif JetVerif.Eval

variable (fuel : Nat) (env : Env)

/-- **A failed body leaves no output.**  If the try body fails (error *or* runtime panic — Go's
    `recover()` catches both), then in the runtime the catch clause starts from, every sink that
    existed before the try — in particular the try's own destination — holds exactly what it held
    before: none of the body's output got anywhere. -/
theorem failed_body_writes_nothing (body : List Stmt) (rt rt2 : RT) (hwf : WF rt)
    (hfail : (∃ e, (recAt fuel).execList env body (tryStart rt) = .err e rt2) ∨
             (∃ s, (recAt fuel).execList env body (tryStart rt) = .crash s rt2)) :
    ∀ k, k ≤ rt.nbufs → (tryReset rt rt2).sink k = rt.sink k := by
  have hg := (recGood_recAt fuel).execList env body
  have e : Ext (tryStart rt) rt2 :=
    hfail.elim (fun ⟨_, h⟩ => hg.err (wf_tryStart rt) h) (fun ⟨_, h⟩ => hg.crash (wf_tryStart rt) h)
  exact fun k hk => tryStart_old_untouched e k hk

/-- **A failed body leaves no trace in the state.**  The catch clause (and, without one, the
    statements after the try) start with the scope chain, '.', block content and output
    destination the try statement itself started with. -/
theorem failed_body_state_restored (rt rt2 : RT) :
    (tryReset rt rt2).scope = rt.scope ∧ (tryReset rt rt2).ctx = rt.ctx ∧
    (tryReset rt rt2).content = rt.content ∧ (tryReset rt rt2).writer = rt.writer :=
  ⟨rfl, rfl, rfl, rfl⟩

/-- **After the try statement** — body succeeded, failed, caught or not — rendering continues with
    the same scope chain, context, block content and output destination; the catch variable's
    scope is gone. -/
theorem try_restores_everything (body : List Stmt) (hasCatch : Bool) (cv : Option Bytes)
    (cb : Option (List Stmt)) (rt rt' : RT) (v : Val) (hwf : WF rt)
    (h : executeTry (recAt fuel) env body hasCatch cv cb rt = .ok v rt') :
    rt'.scope = rt.scope ∧ rt'.ctx = rt.ctx ∧ rt'.content = rt.content ∧ rt'.writer = rt.writer :=
  (good_executeTry (recGood_recAt fuel) env body hasCatch cv cb).restores hwf h

/-- **Success copies the buffer, once, unchanged.** If the body finishes, the try's destination
    receives exactly the chunks the body wrote to its private buffer, in order, after what was
    there before, and every other existing sink is untouched. -/
theorem success_copies_buffer (body : List Stmt) (hasCatch : Bool) (cv : Option Bytes)
    (cb : Option (List Stmt)) (rt rt2 : RT) (v : Val) (k : Nat) (hwf : WF rt)
    (hbody : (recAt fuel).execList env body (tryStart rt) = .ok v rt2) (hk : rt.writer.idx = some k) :
    ∃ rt', executeTry (recAt fuel) env body hasCatch cv cb rt = .ok v rt' ∧
      rt'.sink k = rt2.sink (rt.nbufs + 1) ++ rt.sink k := by
  have hp := ((recGood_recAt fuel).execList env body).ok (wf_tryStart rt) hbody
  refine ⟨_, by unfold executeTry; rw [hbody], ?_⟩
  rw [appendTo_sink_cur { rt2 with writer := rt.writer } _ k hk, List.reverse_reverse]
  exact congrArg _ (tryStart_old_untouched hp.1 k (hwf k hk))

/-- without a catch clause a failed try evaluates to nothing and renders nothing -/
theorem no_catch_swallows (hasCatch : Bool) (cv : Option Bytes) (cb : Option (List Stmt)) (errVal : Val)
    (rt : RT) (h : hasCatch = false) : Eval.tryCatch (recAt fuel) env hasCatch cv cb errVal rt = .ok .invalid rt := by
  subst h
  rfl

end JetVerif.Props.C13
