/-
  Tie A for the save / restore discipline of the evaluator (C07, C09, C13).

  The evaluator model (Model/Eval.lean) transcribes, function by function, WHICH restores of eval.go /
  default.go are ordinary statements after a body (skipped when the body panics: `withNewScopeND`, `withCtxND`,
  the scope / content / context hand-backs of executeYieldBlock and of range) and WHICH are deferred
  (`withNewScopeD`, `withCtxD`, `withWriterD`, `withScopeContentD`, the handlers of executeTry and isSet).  The
  theorems of C07 / C09 / C13 are about that transcription.  This file states what the transcription assumes of
  the source, over the table factgen regenerates from /repo on every run (Facts.restoreSites, F14), so that a
  restore that moves from a `defer` into straight-line code - or the other way round - stops the check even when
  no generated program happens to fail at that point.
-/
import JetVerif.Generated.Facts

namespace JetVerif.Props.Restore
open JetVerif

def eventsOf (fn : String) : List String :=
  match Facts.restoreSites.find? (fun r => r.1 == fn) with
  | some r => r.2
  | none => ["missing"]

/-- `a` occurs before `b` in `l` -/
def before (a b : String) (l : List String) : Bool :=
  match l.dropWhile (· != a) with
  | [] => false
  | _ :: rest => rest.contains b

/-- the table the model was transcribed from -/
def expected : List (String × List String) := [
  ("Runtime.newScope", ["set scope"]),
  ("Runtime.releaseScope", ["set scope"]),
  ("Runtime.YieldBlock", ["set context", "set context"]),
  ("Runtime.recover", ["set scope", "set context", "set content", "set Writer", "recover"]),
  ("Runtime.executeYieldBlock", ["new", "set content", "defer-set scope", "defer-set content", "set scope", "set content",
    "set context", "set context", "set context", "set context", "set content", "release"]),
  ("Runtime.executeList", ["new", "defer-release", "new", "release", "new", "set context", "set context", "release"]),
  ("Runtime.executeTry", ["recover", "defer-set scope", "defer-set context", "defer-set content", "handler-new", "handler-release",
    "set Writer", "defer-set Writer"]),
  ("Runtime.executeInclude", ["new", "defer-release", "defer-set context", "set context"]),
  ("Runtime.isSet", ["recover", "defer-set scope", "defer-set context", "defer-set content"]),
  ("operandError", ["recover"]),
  ("Template.Execute", ["defer-recover-method", "set Writer", "set context"]),
  ("builtin includeIfExists", ["new", "defer-release", "defer-set context", "set context"]),
  ("builtin exec", ["new", "defer-release", "defer-set Writer", "set Writer", "defer-set context", "set context"])]

/-- **The source has the save / restore idioms the model transcribes** (regenerated table = expectation) -/
theorem jet_restore_idioms_as_modelled : Facts.restoreSites = expected := by decide +kernel

/-! Rules that carry the properties, stated on their own so that a harmless reshuffle of the table (which
    breaks the equality above) can be told from a change that matters. -/

/-- whoever redirects the output puts it back by a `defer` (C09 exec, C13 try): everything but `Execute`, which
    installs the caller's writer, and `recover`, which clears it for the pool -/
def writerRule : Bool :=
  Facts.restoreSites.all fun r =>
    r.1 == "Template.Execute" || r.1 == "Runtime.recover" || !r.2.contains "set Writer" || r.2.contains "defer-set Writer"

/-- a handler that catches a failure (try, isset) puts scope, context and content back (C07, C13, C17) -/
def handlerRule : Bool :=
  ["Runtime.executeTry", "Runtime.isSet"].all fun fn =>
    let l := eventsOf fn
    l.contains "recover" && l.contains "defer-set scope" && l.contains "defer-set context" && l.contains "defer-set content"

/-- include, exec and includeIfExists open a scope that a `defer` closes, and arm the restore of `.` before they
    change it (C09) -/
def includeRule : Bool :=
  ["Runtime.executeInclude", "builtin exec", "builtin includeIfExists"].all fun fn =>
    let l := eventsOf fn
    before "new" "defer-release" l && before "defer-set context" "set context" l && !l.contains "release"

/-- the content closure of a yield hands scope and content back by a `defer` (D45) -/
def contentRule : Bool :=
  let l := eventsOf "Runtime.executeYieldBlock"
  before "defer-set scope" "set scope" l && before "defer-set content" "set scope" l

theorem jet_writer_restored_by_defer : writerRule = true := by decide +kernel
theorem jet_handlers_restore_everything : handlerRule = true := by decide +kernel
theorem jet_include_scope_and_context_deferred : includeRule = true := by decide +kernel
theorem jet_content_closure_restores_by_defer : contentRule = true := by decide +kernel

end JetVerif.Props.Restore
