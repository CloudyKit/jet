/-
  C09 — include renders in place with the caller's variables; exec returns a value and discards
  all output; includeIfExists behaves like include when the template exists.
-/
import JetVerif.Lemmas.EvalGood

namespace JetVerif.Props.C09
open JetVerif JetVerif.Eval

def InAllOutcomes {α} (P : RT → Prop) : Res α → Prop
  | .ok _ rt' => P rt'
  | .err _ rt' => P rt'
  | .crash _ rt' => P rt'
  | _ => True

/-- **Whatever runs with the output destination swapped for Discard (the body of `exec`) writes
    nothing**: every sink that existed before holds exactly what it held — also when the body
    fails half-way — and the destination is put back (a `defer` in the code). -/
theorem discarded_body_writes_nothing {α} {body : M α} (hb : Good body) (rt : RT) (hwf : WF rt) :
    InAllOutcomes (fun rt' => rt'.writer = rt.writer ∧ ∀ k, k ≤ rt.nbufs → rt'.sink k = rt.sink k)
      (withWriterD .discard body rt) := by
  unfold withWriterD deferred
  cases hbr : body { rt with writer := Wr.discard } with
  | ok a rt2 => exact ⟨rfl, (hb.ok (wf_discard rt) hbr).1.discard⟩
  | err e rt2 => exact ⟨rfl, (hb.err (wf_discard rt) hbr).discard⟩
  | crash s rt2 => exact ⟨rfl, (hb.crash (wf_discard rt) hbr).discard⟩
  | fuel => trivial
  | unsupported w => trivial

/-- the template body that `exec` runs is such a body, for every fuel -/
theorem exec_body_is_discarded (fuel : Nat) (env : Env) (l : List Stmt) (rt : RT) (hwf : WF rt) :
    InAllOutcomes (fun rt' => rt'.writer = rt.writer ∧ ∀ k, k ≤ rt.nbufs → rt'.sink k = rt.sink k)
      (withWriterD .discard ((recAt fuel).execList env l) rt) :=
  discarded_body_writes_nothing ((recGood_recAt fuel).execList env l) rt hwf

/-- **include leaks nothing back**: after `{{include ...}}` (with or without a context) the scope
    chain, '.', block content and destination are the includer's again; and the same holds for
    `exec` / `includeIfExists` called from an expression. -/
theorem include_restores (fuel : Nat) (env : Env) (loc : Loc) (name : Expr) (ctx : Option Expr)
    (rt rt' : RT) (v : Val) (hwf : WF rt)
    (h : executeInclude (recAt fuel) env loc name ctx rt = .ok v rt') :
    rt'.scope = rt.scope ∧ rt'.ctx = rt.ctx ∧ rt'.content = rt.content ∧ rt'.writer = rt.writer :=
  (walk_executeInclude Good.walk (recGood_recAt fuel).ok env loc name ctx).restores hwf h

theorem exec_restores (fuel : Nat) (env : Env) (isExec : Bool) (a : Args) (rt rt' : RT) (v : Val) (hwf : WF rt)
    (h : execBuiltin (recAt fuel) env isExec a rt = .ok v rt') :
    rt'.scope = rt.scope ∧ rt'.ctx = rt.ctx ∧ rt'.content = rt.content ∧ rt'.writer = rt.writer :=
  (walk_execBuiltin Good.walk (recGood_recAt fuel).ok env isExec a).restores hwf h

/-- **the value of a list is the value of the last `return` it executed**: a later statement that
    executed no return does not erase it (D12), a later return replaces it -/
theorem return_value_merge (r : Rec) (env : Env) (s : Stmt) (rest : List Stmt) (rv : Val) (b : Bool)
    (rt rt1 : RT) (ret v2 : Val) (ins : Bool)
    (h : execStmt r env b s rt = .ok (ret, v2, ins) rt1) :
    execListGo r env (s :: rest) rv b rt =
      execListGo r env rest (if isReturnStmt s then v2 else if ret.isValid then ret else rv) ins rt1 := by
  simp [execListGo, h]

/-- a `return` statement yields its operand's value -/
theorem return_stmt_value (r : Rec) (env : Env) (loc : Loc) (e : Expr) (b : Bool) (rt rt1 : RT) (v : Val)
    (h : r.evalExpr env e rt = .ok v rt1) :
    execStmt r env b (.ret loc e) rt = .ok (.invalid, v, b) rt1 :=
  bind_ok h

/-- no return executed: the list evaluates to nil (an invalid Value) -/
theorem empty_list_returns_nil (r : Rec) (env : Env) (rt : RT) :
    execListF r env [] rt = .ok .invalid rt := rfl

end JetVerif.Props.C09
