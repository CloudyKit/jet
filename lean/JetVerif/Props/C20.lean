/-
  C20 — utils.Walk visits every statement and expression node once and never panics.

  `walk_complete` is generic: for any schema and visit table with `covers schema table`, walking a
  schema-conforming tree never crashes and visits exactly the tree's nodes, each once, in order.
  `jet_visitor_covers` instantiates it with the tables regenerated from node.go / utils/visitor.go.
-/
import JetVerif.Model.Visitor
import JetVerif.Generated.Facts

namespace JetVerif.Props.C20
open JetVerif.Visitor

def toRes : Option (List Nat) → Res
  | some l => .ok l
  | none => .fuel

variable (schema : List KindSpec) (tbl : List Arm)

theorem contains_nonempty {g : String} {gs : List String} (h : gs.contains g = true) : gs.isEmpty = false := by
  cases gs with
  | nil => simp at h
  | cons x xs => rfl

section
/-! a walker `rw` and a node lister `ra` that agree on the trees `rf` accepts -/
variable {rw : Tree → Res} {ra : Tree → Option (List Nat)} {rf : Tree → Bool}
  (h : ∀ t, rf t = true → rw t = toRes (ra t))
include h

/-- pointwise agreement lifts to lists -/
theorem runList_eq : ∀ ts, wfList rf ts = true → runList rw ts = toRes (optList ra ts) := by
  intro ts
  induction ts with
  | nil => intro _; rfl
  | cons t ts iht =>
    intro hw
    simp only [wfList, Bool.and_eq_true] at hw
    simp only [runList, optList, h t hw.1, iht hw.2]
    cases ra t <;> cases optList ra ts <;> rfl

theorem actOn_eq (a : Act) (s : Slot) (kid : Option (List Tree))
    (hal : alignedOne a s = true) (hk : wfKid rf s.arity kid = true) :
    actOn rw a kid = toRes (optOn ra kid) := by
  have single : ∀ t, rf t = true → (a.op == .plain || a.op == .inline) = true →
      actOn rw a (some [t]) = toRes (optOn ra (some [t])) := by
    intro t ht hop
    have e : rw t = toRes (ra t) := h t ht
    cases hop2 : a.op with
    | each => rw [hop2] at hop; cases hop
    | plain => simp only [actOn, hop2, optOn, optList, e]; cases ra t <;> simp [toRes]
    | inline => simp only [actOn, hop2, optOn, optList, e]; cases ra t <;> simp [toRes]
  have many : ∀ ts, wfList rf ts = true → (a.op == .each) = true →
      actOn rw a (some ts) = toRes (optOn ra (some ts)) := by
    intro ts hts hop
    simp only [actOn, beq_iff_eq.mp hop, optOn]
    exact runList_eq h ts hts
  have absent : a.guards.contains s.guardBy = true → actOn rw a none = toRes (optOn ra none) := by
    intro hg
    simp [actOn, optOn, contains_nonempty hg, toRes]
  have har := (Bool.and_eq_true _ _ ▸ hal).2
  revert har hk
  generalize s.arity = ar
  -- along `wfKid`: the slot's arity against what the tree holds there
  fun_cases wfKid rf ar kid
  case case1 t => exact single t
  case case2 => exact nofun
  case case3 => exact fun _ hop => absent (Bool.and_eq_true _ _ ▸ hop).2
  case case4 t => exact fun ht hop => single t ht (Bool.and_eq_true _ _ ▸ hop).1
  case case5 => exact nofun
  case case6 ts => exact fun hts hop => many ts hts (Bool.and_eq_true _ _ ▸ hop).1
  case case7 => exact nofun
  case case8 => exact fun _ hop => absent (Bool.and_eq_true _ _ ▸ hop).2
  case case9 ts => exact fun hts hop => many ts hts (Bool.and_eq_true _ _ ▸ hop).1

/-- … and to the actions of an arm that covers the node's slots (the two halves of `armCovers`) -/
theorem runActs_eq :
    ∀ acts slots kids, acts.length = slots.length →
      (List.zip acts slots).all (fun (a, s) => alignedOne a s) = true →
      wfKids rf slots kids = true → runActs rw acts kids = toRes (optActs ra acts kids)
  | [], _, _, _, _, _ => rfl
  | _ :: _, [], _, hl, _, _ => by cases hl
  | _ :: _, _ :: _, [], _, _, hwf => by simp [wfKids] at hwf
  | a :: as, s :: ss, kid :: kids, hl, hal, hwf => by
    simp only [List.zip_cons_cons, List.all_cons, Bool.and_eq_true] at hal
    simp only [wfKids, Bool.and_eq_true] at hwf
    simp only [runActs, optActs, actOn_eq h a s kid hal.1 hwf.1,
      runActs_eq as ss kids (Nat.succ.inj hl) hal.2 hwf.2]
    cases optOn ra kid <;> simp only [toRes, seqRes] <;> cases optActs ra as kids <;> rfl

end

theorem walk_all (hc : covers schema tbl = true) : ∀ fuel : Nat,
    (∀ t, wf schema fuel t = true → walk tbl fuel t = toRes (allNodes tbl fuel t)) := by
  intro fuel
  induction fuel with
  | zero => intro t _; cases t; rfl
  | succ f ih =>
    intro t hwf
    cases t with
    | node id kind kids =>
      simp only [wf] at hwf
      cases hk : findKind schema kind with
      | none => simp [hk] at hwf
      | some k =>
        simp only [hk, Bool.and_eq_true, beq_iff_eq] at hwf
        have hmem : k ∈ schema ∧ k.kind = kind := by
          unfold findKind at hk
          have := List.find?_some hk
          exact ⟨List.mem_of_find?_eq_some hk, by simpa using this⟩
        have hcov := List.all_eq_true.mp hc k hmem.1
        rw [hmem.2] at hcov
        cases ha : findArm tbl kind with
        | none => simp [ha] at hcov
        | some arm =>
          simp only [ha, armCovers, Bool.and_eq_true, beq_iff_eq] at hcov
          simp only [walk, allNodes, ha]
          rw [runActs_eq ih arm.acts k.slots kids hcov.1 hcov.2 hwf.2]
          cases optActs (allNodes tbl f) arm.acts kids <;> rfl

/-- **Generic completeness**: with a covering visit table, walking a schema-conforming tree never
    panics and — given enough fuel for its depth — visits exactly its nodes, each once, in order. -/
theorem walk_complete (hc : covers schema tbl = true) (fuel : Nat) (t : Tree) (l : List Nat)
    (hwf : wf schema fuel t = true) (hall : allNodes tbl fuel t = some l) :
    walk tbl fuel t = .ok l := by
  rw [walk_all schema tbl hc fuel t hwf, hall]
  rfl

theorem walk_never_crashes (hc : covers schema tbl = true) (fuel : Nat) (t : Tree)
    (hwf : wf schema fuel t = true) : ∀ why, walk tbl fuel t ≠ .crash why := by
  intro why
  rw [walk_all schema tbl hc fuel t hwf]
  cases allNodes tbl fuel t <;> exact nofun

/-! ### instantiation with the tables regenerated from /repo -/

/-- struct types of node.go that never occur as a node of a parsed tree: markers consumed by the
    parser, embedded bases, the parameter list (its expressions are slots of block/yield) and the
    catch clause (inlined into its try) -/
def abstractKinds : List String :=
  ["endNode", "contentNode", "elseNode", "BranchNode", "BlockParameterList", "binaryExprNode", "catchNode"]

/-- which child slots the parser may leave nil (hand-written from parse.go; validated on every run
    by checking `wf jetSchema` on the trees the real parser produces) -/
def nilable : List (String × String) :=
  [("ActionNode", "Set"), ("ActionNode", "Pipe"), ("IfNode", "Set"), ("IfNode", "ElseList"),
   ("RangeNode", "Set"), ("RangeNode", "Expression"), ("RangeNode", "ElseList"),
   ("BlockNode", "Expression"), ("BlockNode", "Content"),
   ("YieldNode", "Parameters"), ("YieldNode", "Expression"), ("YieldNode", "Content"),
   ("IncludeNode", "Context"), ("AdditiveExprNode", "Left"),
   ("SliceExprNode", "Index"), ("SliceExprNode", "EndIndex"),
   ("TryNode", "Catch.Err"), ("TryNode", "Catch.List")]

def guardOf (path : String) : String := if path == "Catch.List" then "Catch" else path

def slotOf (kind : String) (f : String × String) : Slot :=
  let isNil := nilable.contains (kind, f.1)
  { path := f.1, guardBy := guardOf f.1,
    arity := if f.2 == "slice" then .many
             else if f.2 == "paramsPtr" then (if isNil then .optMany else .many)
             else (if isNil then .opt else .one) }

/-- the schema of parsed trees, derived from the regenerated struct declarations -/
def jetSchema : List KindSpec :=
  (Facts.nodeStructs.filter (fun k => !abstractKinds.contains k.1)).map
    (fun k => { kind := k.1, slots := k.2.map (slotOf k.1) })

/-- the extractor understood every construct of utils/visitor.go -/
theorem visitor_shape_understood : Facts.visitorShapeOk = true := by decide

/-- **The visitor of /repo covers the schema of /repo**: every node kind has an arm, and each arm
    visits each child slot exactly once, in order, with every nil-able slot guarded. -/
theorem jet_visitor_covers : covers jetSchema Facts.visitArms = true := by decide +kernel

/-- hence `utils.Walk` never panics on, and visits exactly the nodes of, every tree that conforms
    to the schema (what the parser produces) -/
theorem jet_walk_complete (fuel : Nat) (t : Tree) (l : List Nat)
    (hwf : wf jetSchema fuel t = true) (hall : allNodes Facts.visitArms fuel t = some l) :
    walk Facts.visitArms fuel t = .ok l :=
  walk_complete jetSchema Facts.visitArms jet_visitor_covers fuel t l hwf hall

theorem jet_walk_never_panics (fuel : Nat) (t : Tree) (hwf : wf jetSchema fuel t = true) :
    ∀ why, walk Facts.visitArms fuel t ≠ .crash why :=
  walk_never_crashes jetSchema Facts.visitArms jet_visitor_covers fuel t hwf

/-- non-vacuity: `{{include "x"}}` as a tree (List → Include → String) is walked completely -/
example : walk Facts.visitArms 4
    (.node 0 "ListNode" [some [.node 1 "IncludeNode" [some [.node 2 "StringNode" []], none]]]) = .ok [0, 1, 2] := by
  decide +kernel

end JetVerif.Props.C20
