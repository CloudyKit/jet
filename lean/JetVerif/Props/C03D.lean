/-
  C03, what is dropped: the invariant of Lemmas/LexNoCrash.lean carries, for every `ignore` event, what
  the dropped range consists of.  Together with Props/C03.lean (the events tile the source, token values
  are verbatim slices, the trim runs are maximal) this is the whole statement: nothing is added, and
  nothing but whitespace runs next to trim markers, the markers themselves and comments is removed.
-/
import JetVerif.Lemmas.LexNoCrash

namespace JetVerif.Props.C03D
open JetVerif JetVerif.Lex JetVerif.Utf8

/-- **What the lexer drops** (C03): every range dropped at one of the five `l.ignore()` sites is a run of
    spaces, tabs, CRs and LFs (the trim runs), the marker `- `, whatever space item was pending followed
    by the marker ` -`, or a whole comment from its opening to its first closing marker - for every
    source and every delimiter configuration. -/
theorem dropped_ranges_are_whitespace_markers_or_comments (l r lc rc input : Bytes) :
    ∀ ev ∈ (lexRun (mkDelims l r lc rc) input).evs, IgnEv input (mkDelims l r lc rc) ev := by
  obtain ⟨evs, h, hev⟩ := lexRun_done (mkDelims_wf l r lc rc) input
  rw [h]
  exact fun ev he => (hev ev he).2.2

end JetVerif.Props.C03D
