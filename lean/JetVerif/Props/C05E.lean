/-
  C05, the evaluator's part for whole chains — "An if / else if / else chain renders exactly one branch:
  the first whose condition is truthy, otherwise the else branch if there is one."

  Props/C05.lean proves it for ONE `if` (`ifBranches`); Props/C05P.lean proves that the parser maps the
  spelling of a chain to the nested tree (`{{else if c}}` = an else list whose only node is the next `if`).
  Here:

  A. (evaluator, AST level)  For the nested `Stmt.ifS` shape `chainStmt` of ARBITRARY length, with arbitrary
     condition expressions and bodies: executing the chain is executing exactly the body of the first clause
     whose condition is truthy (conditions after it play no role, they may even be ones that would fail);
     if all are falsy it is executing the final else list, or nothing; if a condition fails after falsy
     ones, the chain fails with that failure and no body is run.

     What the model does, precisely:
     * an `if` without `:=` opens no scope (`execIf`, case `none`); the chosen body is run by `execList`,
       which opens a let-scope only if the body itself contains a `:=` action and releases it at its end;
     * fuel: a nested else list costs one unit (`recAt (n+1)` unfolds one level per `execList`).  With
       the chain executed at fuel `K`, clause j (0-based) has its condition evaluated by
       `(recAt (K - j)).evalExpr` and its body run by `(recAt (K - j)).execList`; the final else list runs at
       the fuel of the last condition.  Below `K = M + pre.length`, where `pre` are the falsy clauses in
       front of the selected one and `M` is the fuel at which the selected condition and body run.
       No fuel monotonicity of `evalExpr` is proved in the library, so the hypotheses name the fuel at which
       each condition is evaluated (`Falsy`); for conditions that do not recurse (identifiers, literals)
       every fuel ≥ 1 gives the same value and `Falsy.of_forall` / the `_pure` variants apply.
     * conditions may change the runtime (a call can); the runtime is threaded through (`Falsy … rt rt1`).

  B. (composition)  For chains whose conditions are identifiers and whose bodies are text: the parser
     model maps the spelling to a tree (C05P), the tree erases to `chainStmt` (the erasure of text / `if`
     nodes is restated as a total function, `Driver/ExecSrc.lean`'s `stmtA` being a `partial def`), and
     `Template.Execute` on it writes exactly the text of the first clause whose identifier stands for a
     truthy value, else the else text, else nothing.  The parser step is `textOrAction` on the chain's
     spelling (statement level, as in C05P), not a whole `parseSource` run.

  Lemmas: JetVerif/Lemmas/IfChain.lean.
-/
import JetVerif.Lemmas.EvalGood
import JetVerif.Lemmas.IfChain
import JetVerif.Props.C08
import JetVerif.Props.C05P

namespace JetVerif.Props.C05E
open JetVerif JetVerif.Eval JetVerif.IfChain JetVerif.TextOnly

/-! ### A. the evaluator on chains of any length -/

/-- **An `if` without `:=` is its two branches and opens no scope of its own**: as a statement it is
    `ifBranches` (Props/C05: the then-list iff the condition is truthy), whose value it hands on. -/
theorem if_statement_is_its_branches (r : Rec) (env : Env) (ins : Bool) (loc : Loc) (c : Expr) (t : List Stmt)
    (els : Option (List Stmt)) (rt : RT) :
    execStmt r env ins (.ifS loc none c t els) rt = stmtRes ins (ifBranches r env c t els rt) :=
  execStmt_if r env ins loc c t els rt

/-- **`else if` costs one unit of fuel and nothing else**: the else list `[if …]` run at fuel `n+1` is the
    nested `if` at fuel `n` — same value, same runtime, same failure, no scope opened or released. -/
theorem else_if_list_is_the_nested_if (n : Nat) (env : Env) (loc : Loc) (c : Expr) (t : List Stmt)
    (els : Option (List Stmt)) (rt : RT) :
    (recAt (n + 1)).execList env [.ifS loc none c t els] rt = ifBranches (recAt n) env c t els rt :=
  execList_single_if n env loc c t els rt

/-- **An if / else-if / else chain runs the first truthy branch, and only it.**  The clauses are
    `pre ++ cl :: post`: the conditions of `pre` evaluate, in order, to falsy values (`Falsy`: clause j at
    fuel `M + pre.length - j`, runtime threaded from `rt` to `rt1`), the condition of `cl` evaluates at
    fuel `M` to a truthy value leaving `rt2`.  Then the chain, as a statement of any list at fuel
    `M + pre.length`, is exactly `execList` of `cl`'s body at fuel `M` from `rt2`: same value, same final
    runtime (hence same output), same failure if the body fails.  `post` and `fin` do not occur on the right. -/
theorem if_chain_runs_the_first_truthy_branch (env : Env) (M : Nat) (ins : Bool) (hd : Clause) (tl : List Clause)
    (fin : Option (List Stmt)) (pre : List Clause) (cl : Clause) (post : List Clause) (rt rt1 rt2 : RT) (v : Val)
    (hsplit : hd :: tl = pre ++ cl :: post) (hpre : Falsy env M pre rt rt1)
    (hc : (recAt M).evalExpr env cl.cond rt1 = .ok v rt2) (hv : Val.isTrue v = some true) :
    execStmt (recAt (M + pre.length)) env ins (chainStmt hd tl fin) rt =
      stmtRes ins ((recAt M).execList env cl.body rt2) := by
  rw [execStmt_chain, hsplit, elsePart_truthy env M fin pre cl post rt rt1 rt2 v hpre hc hv]

/-- the same for the chain as the only statement of a list (a template root, a body, an else list) -/
theorem if_chain_list_runs_the_first_truthy_branch (env : Env) (M : Nat) (hd : Clause) (tl : List Clause)
    (fin : Option (List Stmt)) (pre : List Clause) (cl : Clause) (post : List Clause) (rt rt1 rt2 : RT) (v : Val)
    (hsplit : hd :: tl = pre ++ cl :: post) (hpre : Falsy env M pre rt rt1)
    (hc : (recAt M).evalExpr env cl.cond rt1 = .ok v rt2) (hv : Val.isTrue v = some true) :
    (recAt (M + pre.length + 1)).execList env [chainStmt hd tl fin] rt = (recAt M).execList env cl.body rt2 := by
  rw [execList_chain, hsplit, elsePart_truthy env M fin pre cl post rt rt1 rt2 v hpre hc hv]

/-- **Conditions after the first truthy one are not evaluated, bodies after it and the else list are not
    run**: two chains that agree up to and including the first truthy clause behave identically, whatever
    comes after — other conditions (failing ones included), other bodies, another else list or none. -/
theorem later_conditions_are_not_evaluated (env : Env) (M : Nat) (ins : Bool) (hd hd' : Clause) (tl tl' : List Clause)
    (fin fin' : Option (List Stmt)) (pre : List Clause) (cl : Clause) (post post' : List Clause) (rt rt1 rt2 : RT)
    (v : Val) (hsplit : hd :: tl = pre ++ cl :: post) (hsplit' : hd' :: tl' = pre ++ cl :: post')
    (hpre : Falsy env M pre rt rt1)
    (hc : (recAt M).evalExpr env cl.cond rt1 = .ok v rt2) (hv : Val.isTrue v = some true) :
    execStmt (recAt (M + pre.length)) env ins (chainStmt hd tl fin) rt =
      execStmt (recAt (M + pre.length)) env ins (chainStmt hd' tl' fin') rt := by
  rw [if_chain_runs_the_first_truthy_branch env M ins hd tl fin pre cl post rt rt1 rt2 v hsplit hpre hc hv,
    if_chain_runs_the_first_truthy_branch env M ins hd' tl' fin' pre cl post' rt rt1 rt2 v hsplit' hpre hc hv]

/-- **All conditions falsy, with a final else: the chain runs the else list** (at the fuel of the last
    condition, from the runtime the last condition left). -/
theorem if_chain_all_falsy_runs_else (env : Env) (M : Nat) (ins : Bool) (hd : Clause) (tl : List Clause)
    (l : List Stmt) (rt rt1 : RT) (hall : Falsy env M (hd :: tl) rt rt1) :
    execStmt (recAt (M + tl.length + 1)) env ins (chainStmt hd tl (some l)) rt =
      stmtRes ins ((recAt (M + 1)).execList env l rt1) := by
  rw [execStmt_chain]
  show stmtRes ins (elsePart (M + (hd :: tl).length + 1) env (hd :: tl) (some l) rt) = _
  rw [elsePart_allFalsy env M (some l) (hd :: tl) rt rt1 hall, elsePart_nil_some]

/-- **All conditions falsy, no else: the chain does nothing** — no value, and the runtime (output included)
    is the one the last condition left. -/
theorem if_chain_all_falsy_no_else_writes_nothing (env : Env) (M : Nat) (ins : Bool) (hd : Clause) (tl : List Clause)
    (rt rt1 : RT) (hall : Falsy env M (hd :: tl) rt rt1) :
    execStmt (recAt (M + tl.length + 1)) env ins (chainStmt hd tl none) rt = .ok (.invalid, .invalid, ins) rt1 := by
  rw [execStmt_chain]
  show stmtRes ins (elsePart (M + (hd :: tl).length + 1) env (hd :: tl) none rt) = _
  rw [elsePart_allFalsy env M none (hd :: tl) rt rt1 hall, elsePart_nil_none]
  rfl

/-- **A condition that fails is the chain's failure, and no body runs**: if after falsy conditions the
    next condition panics with error `e` (leaving runtime `rt2`), the chain fails with `e` and `rt2`; no
    `execList` occurs on the right, and the result does not depend on any body, on `post` or on `fin`. -/
theorem if_chain_condition_failure_is_the_failure (env : Env) (M : Nat) (ins : Bool) (hd : Clause) (tl : List Clause)
    (fin : Option (List Stmt)) (pre : List Clause) (cl : Clause) (post : List Clause) (rt rt1 rt2 : RT) (e : Err)
    (hsplit : hd :: tl = pre ++ cl :: post) (hpre : Falsy env M pre rt rt1)
    (hc : (recAt M).evalExpr env cl.cond rt1 = .err e rt2) :
    execStmt (recAt (M + pre.length)) env ins (chainStmt hd tl fin) rt = .err e rt2 := by
  rw [execStmt_chain, hsplit, elsePart_fails env M fin pre cl post rt rt1 hpre (by simp [hc]), hc]
  rfl

/-- the same for a runtime panic (a Go crash rather than an error value) -/
theorem if_chain_condition_crash_is_the_crash (env : Env) (M : Nat) (ins : Bool) (hd : Clause) (tl : List Clause)
    (fin : Option (List Stmt)) (pre : List Clause) (cl : Clause) (post : List Clause) (rt rt1 rt2 : RT) (m : String)
    (hsplit : hd :: tl = pre ++ cl :: post) (hpre : Falsy env M pre rt rt1)
    (hc : (recAt M).evalExpr env cl.cond rt1 = .crash m rt2) :
    execStmt (recAt (M + pre.length)) env ins (chainStmt hd tl fin) rt = .crash m rt2 := by
  rw [execStmt_chain, hsplit, elsePart_fails env M fin pre cl post rt rt1 hpre (by simp [hc]), hc]
  rfl

/-- **The usual case: conditions that leave the runtime alone and do not depend on the fuel.**  If every
    condition of `pre` is falsy at every fuel ≥ 1 from `rt` without changing it, and `cl`'s condition is
    truthy likewise, the chain run at any fuel `m + 1 + pre.length` is `cl`'s body run from `rt`. -/
theorem if_chain_runs_the_first_truthy_branch_pure (env : Env) (m : Nat) (ins : Bool) (hd : Clause) (tl : List Clause)
    (fin : Option (List Stmt)) (pre : List Clause) (cl : Clause) (post : List Clause) (rt : RT) (v : Val)
    (hsplit : hd :: tl = pre ++ cl :: post)
    (hpre : ∀ c ∈ pre, ∀ n, ∃ w, (recAt (n + 1)).evalExpr env c.cond rt = .ok w rt ∧ Val.isTrue w = some false)
    (hc : (recAt (m + 1)).evalExpr env cl.cond rt = .ok v rt) (hv : Val.isTrue v = some true) :
    execStmt (recAt (m + 1 + pre.length)) env ins (chainStmt hd tl fin) rt =
      stmtRes ins ((recAt (m + 1)).execList env cl.body rt) :=
  if_chain_runs_the_first_truthy_branch env (m + 1) ins hd tl fin pre cl post rt rt rt v hsplit
    (Falsy.of_forall env (m + 1) rt pre hpre) hc hv

/-- … all falsy: the else list, or nothing -/
theorem if_chain_all_falsy_pure (env : Env) (M : Nat) (ins : Bool) (hd : Clause) (tl : List Clause)
    (fin : Option (List Stmt)) (rt : RT)
    (hall : ∀ c ∈ hd :: tl, ∀ n, ∃ w, (recAt (n + 1)).evalExpr env c.cond rt = .ok w rt ∧ Val.isTrue w = some false) :
    execStmt (recAt (M + tl.length + 1)) env ins (chainStmt hd tl fin) rt =
      match fin with
      | some l => stmtRes ins ((recAt (M + 1)).execList env l rt)
      | none => .ok (.invalid, .invalid, ins) rt := by
  have h := Falsy.of_forall env M rt (hd :: tl) hall
  cases fin with
  | some l => exact if_chain_all_falsy_runs_else env M ins hd tl l rt rt h
  | none => exact if_chain_all_falsy_no_else_writes_nothing env M ins hd tl rt rt h

/-- **When the chain succeeds, scope, context and block content are as before it** (whatever branch ran;
    a let-scope opened inside a body is released at the body's end): an instance of the evaluator's
    invariant `Good` (Lemmas/EvalGood) for the list `[chain]`. -/
theorem if_chain_restores_scope (K : Nat) (env : Env) (hd : Clause) (tl : List Clause) (fin : Option (List Stmt))
    (rt rt' : RT) (x : Val) (hwf : WF rt)
    (h : (recAt K).execList env [chainStmt hd tl fin] rt = .ok x rt') :
    rt'.scope = rt.scope ∧ rt'.ctx = rt.ctx ∧ rt'.content = rt.content := by
  have hp := ((recGood_recAt K).execList env [chainStmt hd tl fin]).restores hwf h
  exact ⟨hp.1, hp.2.1, hp.2.2.1⟩

/-! ### B. parser, erasure and evaluator together: identifier conditions, text bodies -/

open JetVerif.StmtGrammar JetVerif.Props.C05P

/-- **The tree of a chain erases to the nested `ifS` chain**: for conditions that are identifiers and
    bodies that are text items, the erasure (`eraseS`: `stmtA` of the driver restated for text and `if`
    nodes) of the tree C05P promises is `chainStmt` over the same identifiers and texts, every node at line 1. -/
theorem if_chain_tree_erases_to_nested_ifs (path : Bytes) (x : Bytes × List Bytes) (more : List (Bytes × List Bytes))
    (fin : Option (List Bytes)) :
    eraseS path (chainTree (atom7 x.1) (textsL x.2) (more.map gClause) (fin.map textsL)) =
      some (chainStmt (eClause path x) (more.map (eClause path)) (eFin path fin)) := by
  induction more generalizing x with
  | nil =>
    cases fin <;>
      simp [chainTree, eraseS, tree7_atom7, eraseE, treeL_textsL, eraseL_texts, eraseO, chainStmt, eClause, chainElse, eFin]
  | cons y more ih =>
    show eraseS path (chainTree (atom7 x.1) (textsL x.2) ((atom7 y.1, textsL y.2) :: more.map gClause) (fin.map textsL)) =
      some (chainStmt (eClause path x) (eClause path y :: more.map (eClause path)) (eFin path fin))
    simp [chainTree, eraseS, tree7_atom7, eraseE, treeL_textsL, eraseL_texts, eraseO, eraseL, ih y, chainStmt, eClause, chainElse]

def tmplOf (name : Bytes) (blocks : List (Bytes × BlockN)) (s : Stmt) : Tmpl :=
  { name := name, ext := none, imports := [], blocks := blocks, root := [s] }

/-- `Execute` on a one-statement template, read off the final runtime: the output is sink 0 (most recent
    first), the log is the runtime's -/
theorem execute_tmplOf_sink (fuel : Nat) (env : Env) (name : Bytes) (blocks : List (Bytes × BlockN)) (s : Stmt)
    (vars : List (Bytes × Val)) (data : Val) (chunks : List Chunk) (v : Val) (rt' : RT)
    (h : (recAt (fuel + 1)).execList env [s] (initRT (tmplOf name blocks s) vars data) = .ok v rt')
    (hs : rt'.sink 0 = chunks.reverse) (hl : rt'.log = []) :
    execute (fuel + 1) env (tmplOf name blocks s) vars data = .ok chunks [] := by
  rw [(C08.execute_uses_root_body_and_leaf_table _ env _ (tmplOf name blocks s) vars data rfl).1,
    show (tmplOf name blocks s).root = [s] from rfl, h]
  simp [hs, hl]

theorem execute_tmplOf (fuel : Nat) (env : Env) (name : Bytes) (blocks : List (Bytes × BlockN)) (s : Stmt)
    (vars : List (Bytes × Val)) (data : Val) (chunks : List Chunk)
    (h : (recAt (fuel + 1)).execList env [s] (initRT (tmplOf name blocks s) vars data) =
      .ok .invalid (appendTo (initRT (tmplOf name blocks s) vars data) (initRT (tmplOf name blocks s) vars data).writer chunks)) :
    execute (fuel + 1) env (tmplOf name blocks s) vars data = .ok chunks [] :=
  execute_tmplOf_sink fuel env name blocks s vars data chunks _ _ h (by simp [appendTo, initRT, Wr.idx]) rfl

theorem execute_tmplOf_err (fuel : Nat) (env : Env) (name : Bytes) (blocks : List (Bytes × BlockN)) (s : Stmt)
    (vars : List (Bytes × Val)) (data : Val) (e : Err)
    (h : (recAt (fuel + 1)).execList env [s] (initRT (tmplOf name blocks s) vars data) =
      .err e (initRT (tmplOf name blocks s) vars data)) :
    execute (fuel + 1) env (tmplOf name blocks s) vars data = .err e [] [] := by
  rw [(C08.execute_uses_root_body_and_leaf_table _ env _ (tmplOf name blocks s) vars data rfl).1,
    show (tmplOf name blocks s).root = [s] from rfl, h]
  simp [initRT]

/-- **`{{if a}}x{{else if b}}y … {{else}}z{{end}}`, source spelling to output.**  The clauses
    (identifier, text items) are `hd :: tl = pre ++ x :: post`, `fin` is the optional else text.  For
    every literal table `cfg`, parser state about to read the spelling, and whatever items `rest` follow:

    * the parser model returns a tree and stops right behind the `{{end}}` (C05P);
    * the tree erases to a statement `s`, the nested `ifS` chain;
    * for all variables, globals and data such that the identifiers of `pre` stand for falsy values
      (`identVal`: the variable of that name, else the global, else the built-in; `.` is the data;
      falsy = `false`, zero, the empty string, nil …: `Val.isTrue`, tabulated in Props/C05) and the
      identifier of `x` stands for a truthy value, and every fuel ≥ `pre.length + 2`:
      `Template.Execute` succeeds, logs nothing, and its output is exactly `x`'s text items — one literal
      chunk each, in order; nothing of any other clause or of the else text. -/
theorem parsed_if_chain_renders_the_first_truthy_text (cfg : Parse.Cfg) (path name : Bytes)
    (hd : Bytes × List Bytes) (tl : List (Bytes × List Bytes)) (fin : Option (List Bytes))
    (n : Nat) (b : Parse.PSt) (it0 : Parse.Item) (rest : List Parse.Item)
    (hn : n ≥ 10 * chainSize (atom7 hd.1) (textsL hd.2) (tl.map gClause) (fin.map textsL)) :
    ∃ tree s,
      Parse.textOrAction cfg n (Parse.mkS b (chainToks (atom7 hd.1) (textsL hd.2) (tl.map gClause) (fin.map textsL) ++ rest) it0 0) =
        .ok tree (Parse.mkS b rest rd 0) ∧
      eraseS path tree = some s ∧
      s = chainStmt (eClause path hd) (tl.map (eClause path)) (eFin path fin) ∧
      ∀ (env : Env) (blocks : List (Bytes × BlockN)) (vars : List (Bytes × Val)) (data : Val)
        (pre post : List (Bytes × List Bytes)) (x : Bytes × List Bytes) (v : Val) (m : Nat),
        hd :: tl = pre ++ x :: post →
        (∀ y ∈ pre, ∃ w, identVal env vars data y.1 = some w ∧ Val.isTrue w = some false) →
        identVal env vars data x.1 = some v → Val.isTrue v = some true →
        execute (m + pre.length + 2) env (tmplOf name blocks s) vars data = .ok (x.2.map litChunk) [] := by
  refine ⟨_, _, if_chain_is_parsed_as_written cfg _ _ _ _ n b it0 rest hn, if_chain_tree_erases_to_nested_ifs path hd tl fin, rfl, ?_⟩
  intro env blocks vars data pre post x v m hsplit hpre hx hv
  exact execute_tmplOf (m + pre.length + 1) env name blocks _ vars data _
    (run_idChain_truthy env path _ hd tl pre post x fin m v hsplit (by simpa only [lookupVal_initRT] using hpre)
      (by rw [lookupVal_initRT, hx]) hv)

/-- **… every identifier falsy: the else text if there is one, else nothing.** -/
theorem parsed_if_chain_all_falsy_renders_else_text (cfg : Parse.Cfg) (path name : Bytes)
    (hd : Bytes × List Bytes) (tl : List (Bytes × List Bytes)) (fin : Option (List Bytes))
    (n : Nat) (b : Parse.PSt) (it0 : Parse.Item) (rest : List Parse.Item)
    (hn : n ≥ 10 * chainSize (atom7 hd.1) (textsL hd.2) (tl.map gClause) (fin.map textsL)) :
    ∃ tree s,
      Parse.textOrAction cfg n (Parse.mkS b (chainToks (atom7 hd.1) (textsL hd.2) (tl.map gClause) (fin.map textsL) ++ rest) it0 0) =
        .ok tree (Parse.mkS b rest rd 0) ∧
      eraseS path tree = some s ∧
      ∀ (env : Env) (blocks : List (Bytes × BlockN)) (vars : List (Bytes × Val)) (data : Val) (m : Nat),
        (∀ y ∈ hd :: tl, ∃ w, identVal env vars data y.1 = some w ∧ Val.isTrue w = some false) →
        execute (m + tl.length + 2) env (tmplOf name blocks s) vars data = .ok ((fin.getD []).map litChunk) [] := by
  refine ⟨_, _, if_chain_is_parsed_as_written cfg _ _ _ _ n b it0 rest hn, if_chain_tree_erases_to_nested_ifs path hd tl fin, ?_⟩
  intro env blocks vars data m hall
  exact execute_tmplOf (m + tl.length + 1) env name blocks _ vars data _
    (run_idChain_allFalsy env path _ hd tl fin m (by simpa only [lookupVal_initRT] using hall))

/-- **… an identifier that is bound nowhere, reached after falsy ones: `Execute` fails with the located
    error "identifier not available" (line 1 of `path`) and has written nothing.** -/
theorem parsed_if_chain_unbound_identifier_fails (env : Env) (path name : Bytes) (blocks : List (Bytes × BlockN))
    (vars : List (Bytes × Val)) (data : Val) (hd : Bytes × List Bytes) (tl pre post : List (Bytes × List Bytes))
    (x : Bytes × List Bytes) (fin : Option (List Bytes)) (m : Nat) (hsplit : hd :: tl = pre ++ x :: post)
    (hpre : ∀ y ∈ pre, ∃ w, identVal env vars data y.1 = some w ∧ Val.isTrue w = some false)
    (hx : identVal env vars data x.1 = none) :
    execute (m + pre.length + 2) env
        (tmplOf name blocks (chainStmt (eClause path hd) (tl.map (eClause path)) (eFin path fin))) vars data =
      .err (notAvailable ⟨path, 1⟩) [] [] := by
  exact execute_tmplOf_err (m + pre.length + 1) env name blocks _ vars data _
    (run_idChain_unbound env path _ hd tl pre post x fin m hsplit (by simpa only [lookupVal_initRT] using hpre)
      (by rw [lookupVal_initRT, hx]))

/-! ### worked instances (and non-vacuity: the hypotheses are met) -/

section examples

theorem evalExpr_boolLit (n : Nat) (env : Env) (loc : Loc) (b : Bool) (rt : RT) :
    (recAt (n + 1)).evalExpr env (.boolLit loc b) rt = .ok (.bool b) rt := rfl

theorem evalExpr_underscore (n : Nat) (env : Env) (loc : Loc) (rt : RT) :
    (recAt (n + 1)).evalExpr env (.underscore loc) rt =
      .err { located := true, loc := loc, what := "unexpected node type in unary expression evaluating" } rt := rfl

/-- `{{if false}}b₀{{else if false}}b₁{{else if true}}b₂{{else if c₃}}b₃{{else}}f{{end}}` with ARBITRARY
    bodies and an arbitrary fourth condition `c₃` (it may be one that fails, like `_`): executed at fuel
    `m + 3`, it is `b₂` executed at fuel `m + 1` - two `else if` levels down - and nothing else. -/
example (env : Env) (m : Nat) (ins : Bool) (loc : Loc) (b0 b1 b2 b3 f : List Stmt) (c3 : Expr) (rt : RT) :
    execStmt (recAt (m + 3)) env ins
        (chainStmt ⟨loc, .boolLit loc false, b0⟩
          [⟨loc, .boolLit loc false, b1⟩, ⟨loc, .boolLit loc true, b2⟩, ⟨loc, c3, b3⟩] (some f)) rt =
      stmtRes ins ((recAt (m + 1)).execList env b2 rt) :=
  if_chain_runs_the_first_truthy_branch_pure env m ins _ _ _
    [⟨loc, .boolLit loc false, b0⟩, ⟨loc, .boolLit loc false, b1⟩] ⟨loc, .boolLit loc true, b2⟩ [⟨loc, c3, b3⟩]
    rt (.bool true) rfl
    (by intro c hc n
        simp only [List.mem_cons, List.not_mem_nil, or_false] at hc
        rcases hc with rfl | rfl <;> exact ⟨.bool false, rfl, C05.truthy_bool false⟩)
    rfl (C05.truthy_bool true)

/-- `{{if false}}b₀{{else if false}}b₁{{else if false}}b₂{{else}}f{{end}}`: the else list, at the fuel of
    the third condition; without `{{else}}`: nothing, the runtime is untouched -/
example (env : Env) (M : Nat) (ins : Bool) (loc : Loc) (b0 b1 b2 f : List Stmt) (rt : RT) :
    execStmt (recAt (M + 3)) env ins
        (chainStmt ⟨loc, .boolLit loc false, b0⟩ [⟨loc, .boolLit loc false, b1⟩, ⟨loc, .boolLit loc false, b2⟩] (some f)) rt =
      stmtRes ins ((recAt (M + 1)).execList env f rt) :=
  if_chain_all_falsy_pure env M ins ⟨loc, .boolLit loc false, b0⟩
    [⟨loc, .boolLit loc false, b1⟩, ⟨loc, .boolLit loc false, b2⟩] (some f) rt
    (by intro c hc n
        simp only [List.mem_cons, List.not_mem_nil, or_false] at hc
        rcases hc with rfl | rfl | rfl <;> exact ⟨.bool false, rfl, C05.truthy_bool false⟩)

example (env : Env) (M : Nat) (ins : Bool) (loc : Loc) (b0 b1 b2 : List Stmt) (rt : RT) :
    execStmt (recAt (M + 3)) env ins
        (chainStmt ⟨loc, .boolLit loc false, b0⟩ [⟨loc, .boolLit loc false, b1⟩, ⟨loc, .boolLit loc false, b2⟩] none) rt =
      .ok (.invalid, .invalid, ins) rt :=
  if_chain_all_falsy_pure env M ins ⟨loc, .boolLit loc false, b0⟩
    [⟨loc, .boolLit loc false, b1⟩, ⟨loc, .boolLit loc false, b2⟩] none rt
    (by intro c hc n
        simp only [List.mem_cons, List.not_mem_nil, or_false] at hc
        rcases hc with rfl | rfl | rfl <;> exact ⟨.bool false, rfl, C05.truthy_bool false⟩)

/-- `{{if false}}b₀{{else if _}}b₁{{else if true}}b₂{{end}}`: the second condition fails, so does the chain,
    with that error; `b₂` is not reached although its condition is true -/
example (env : Env) (m : Nat) (ins : Bool) (loc : Loc) (b0 b1 b2 : List Stmt) (rt : RT) :
    execStmt (recAt (m + 2)) env ins
        (chainStmt ⟨loc, .boolLit loc false, b0⟩ [⟨loc, .underscore loc, b1⟩, ⟨loc, .boolLit loc true, b2⟩] none) rt =
      .err { located := true, loc := loc, what := "unexpected node type in unary expression evaluating" } rt :=
  if_chain_condition_failure_is_the_failure env (m + 1) ins _ _ none [⟨loc, .boolLit loc false, b0⟩]
    ⟨loc, .underscore loc, b1⟩ [⟨loc, .boolLit loc true, b2⟩] rt rt rt _ rfl
    (Falsy.of_forall env (m + 1) rt _ (by
      intro c hc n
      simp only [List.mem_cons, List.not_mem_nil, or_false] at hc
      subst hc; exact ⟨.bool false, rfl, C05.truthy_bool false⟩))
    rfl

/-- `{{if a}}x{{else if b}}y{{else if c}}w{{else}}z{{end}}` (bytes: a=97 b=98 c=99 x=120 y=121 w=119 z=122) -/
def exClauses : List (Bytes × List Bytes) := [([98], [[121]]), ([99], [[119]])]
def exHd : Bytes × List Bytes := ([97], [[120]])
def exFin : Option (List Bytes) := some [[122]]

/-- with `a = false`, `b = 0`, `c = "s"`: `a` and `b` are falsy, `c` is the first truthy one, the output is `w` -/
example (cfg : Parse.Cfg) (path name : Bytes) (b : Parse.PSt) (it0 : Parse.Item) :
    ∃ tree s,
      Parse.textOrAction cfg 1000 (Parse.mkS b (chainToks (atom7 exHd.1) (textsL exHd.2) (exClauses.map gClause) (exFin.map textsL) ++ []) it0 0) =
        .ok tree (Parse.mkS b [] rd 0) ∧
      eraseS path tree = some s ∧
      ∀ (env : Env) (blocks : List (Bytes × BlockN)) (data : Val) (m : Nat),
        execute (m + 4) env (tmplOf name blocks s)
          [([97], .bool false), ([98], .int 0), ([99], .str [115])] data = .ok [litChunk [119]] [] := by
  obtain ⟨tree, s, h1, h2, _, h4⟩ := parsed_if_chain_renders_the_first_truthy_text cfg path name exHd exClauses exFin
    1000 b it0 [] (by decide)
  refine ⟨tree, s, h1, h2, ?_⟩
  intro env blocks data m
  exact h4 env blocks _ data [([97], [[120]]), ([98], [[121]])] [] ([99], [[119]]) (.str [115]) m rfl
    (by intro y hy
        simp only [List.mem_cons, List.not_mem_nil, or_false] at hy
        rcases hy with rfl | rfl
        · exact ⟨.bool false, by simp [identVal, alookup, Val.indirectEface], C05.truthy_bool false⟩
        · exact ⟨.int 0, by simp [identVal, alookup, Val.indirectEface], by simp [C05.truthy_int]⟩)
    (by simp [identVal, alookup, Val.indirectEface]) (by simp [C05.truthy_str])

/-- with `a = nil`, `b = ""`, `c = 0`: all falsy, the output is the else text `z` -/
example (path name : Bytes) (env : Env) (blocks : List (Bytes × BlockN)) (data : Val) (m : Nat) :
    execute (m + 4) env (tmplOf name blocks (chainStmt (eClause path exHd) (exClauses.map (eClause path)) (eFin path exFin)))
      [([97], .invalid), ([98], .str []), ([99], .uint 0)] data = .ok [litChunk [122]] [] := by
  refine execute_tmplOf (m + 3) env name blocks _ _ data _
    (run_idChain_allFalsy env path _ exHd exClauses exFin m ?_)
  simp only [lookupVal_initRT]
  intro y hy
  simp only [exHd, exClauses, List.mem_cons, List.not_mem_nil, or_false] at hy
  rcases hy with rfl | rfl | rfl
  · exact ⟨.invalid, by simp [identVal, alookup, Val.indirectEface], C05.falsy_nil⟩
  · exact ⟨.str [], by simp [identVal, alookup, Val.indirectEface], by simp [C05.truthy_str]⟩
  · exact ⟨.uint 0, by simp [identVal, alookup, Val.indirectEface], by simp [C05.truthy_uint]⟩

end examples

end JetVerif.Props.C05E
