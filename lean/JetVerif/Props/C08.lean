/-
  C08 — extends renders the root layout; blocks resolve to the most-derived definition.
  Model: JetVerif/Model/Blocks.lean (table construction), `Eval.execute` / `initRT` / `rootOf`
  (which table and which body an execution uses), `getBlockChain` (lookup).
-/
import JetVerif.Model.Blocks
import JetVerif.Lemmas.EvalEqns

namespace JetVerif.Props.C08
open JetVerif JetVerif.Eval JetVerif.Blocks

variable {β : Type}

/-- writing a table into another: a name resolves to the source's last entry for it, else to what
    the destination had -/
theorem alookup_addAll (k : Bytes) (src : Table β) :
    ∀ t : Table β, alookup k (addAll t src) = (lookupLast k src).or (alookup k t) := by
  induction src with
  | nil => intro t; simp [addAll, lookupLast]
  | cons hd tl ih =>
    intro t
    obtain ⟨a, w⟩ := hd
    have := ih (aset a w t)
    simp only [addAll, List.foldl_cons] at this ⊢
    rw [this, alookup_aset]
    simp only [lookupLast]
    cases lookupLast k tl with
    | some x => simp
    | none => by_cases h : a = k <;> simp [h]

/-- the latest import (in import order) whose table has an entry for `k` -/
def fromImports (k : Bytes) : List (Table β) → Option β
  | [] => none
  | i :: rest =>
    match fromImports k rest with
    | some v => some v
    | none => lookupLast k i

theorem lookupLast_append (k : Bytes) (a b : Table β) :
    lookupLast k (a ++ b) = (lookupLast k b).or (lookupLast k a) := by
  induction a with
  | nil => simp [lookupLast]
  | cons hd tl ih =>
    obtain ⟨k', v⟩ := hd
    simp only [List.cons_append, lookupLast, ih]
    cases lookupLast k b <;> cases lookupLast k tl <;> rfl

theorem fromImports_eq (k : Bytes) (imports : List (Table β)) :
    fromImports k imports = lookupLast k imports.flatten := by
  induction imports with
  | nil => rfl
  | cons i rest ih =>
    rw [fromImports, ih, List.flatten_cons, lookupLast_append]
    cases lookupLast k rest.flatten <;> rfl

/-- the effective table is ONE `addAll`: of the imports' tables in order, then the own registrations -/
theorem processed_eq (ext : Table β) (imports : List (Table β)) (own : Table β) :
    processed ext imports own = addAll ext (imports.flatten ++ own) := by
  rw [processed, addAll, addAll, List.foldl_append, List.foldl_flatten]
  rfl

/-- **Block precedence.**  In the effective block table of a template, a name resolves to the
    template's own (last registered) definition if it has one; otherwise to the definition in the
    latest import whose table has one; otherwise to what the extended template's table says — for
    every extends table, every list of imports and every own definition list. -/
theorem precedence (k : Bytes) (ext : Table β) (imports : List (Table β)) (own : Table β) :
    alookup k (processed ext imports own) =
      ((lookupLast k own).or (fromImports k imports)).or (alookup k ext) := by
  rw [processed_eq, alookup_addAll, lookupLast_append, fromImports_eq]

/-! every table the parser builds has one entry per name, so "last entry" and "the entry" coincide -/

def keys (t : Table β) : List Bytes := t.map Prod.fst

theorem alookup_none_of_not_mem (k : Bytes) (t : Table β) (h : k ∉ keys t) : alookup k t = none := by
  cases ha : alookup k t with
  | none => rfl
  | some v => exact absurd (List.mem_map_of_mem (f := Prod.fst) (alookup_mem ha)) h

theorem lookupLast_eq_alookup (k : Bytes) (t : Table β) (h : (keys t).Nodup) :
    lookupLast k t = alookup k t := by
  induction t with
  | nil => rfl
  | cons hd tl ih =>
    obtain ⟨a, w⟩ := hd
    have hn : a ∉ keys tl ∧ (keys tl).Nodup := by simpa [keys] using h
    simp only [lookupLast, alookup, ih hn.2]
    by_cases hk : a = k
    · subst hk
      simp [alookup_none_of_not_mem a tl hn.1]
    · simp only [hk, if_false]
      cases alookup k tl <;> rfl

theorem keys_aset (k : Bytes) (v : β) (t : Table β) :
    keys (aset k v t) = if k ∈ keys t then keys t else keys t ++ [k] := by
  induction t with
  | nil => simp [aset, keys]
  | cons hd tl ih =>
    obtain ⟨a, w⟩ := hd
    unfold aset
    by_cases h : a = k
    · subst h; simp [keys]
    · have hk : ¬ k = a := fun e => h e.symm
      simp only [h, if_false]
      simp only [keys, List.map_cons, List.mem_cons, hk, false_or] at ih ⊢
      rw [ih]
      split <;> simp [*]

theorem nodup_aset (k : Bytes) (v : β) (t : Table β) (h : (keys t).Nodup) : (keys (aset k v t)).Nodup := by
  rw [keys_aset]
  split
  · exact h
  · rename_i hk
    rw [List.nodup_append]
    refine ⟨h, by simp, ?_⟩
    intro a ha b hb
    simp at hb
    subst hb
    intro e; subst e; exact hk ha

theorem nodup_addAll (src t : Table β) (h : (keys t).Nodup) : (keys (addAll t src)).Nodup :=
  List.foldlRecOn (motive := fun t => (keys t).Nodup) src _ h fun t ht kv _ => nodup_aset kv.1 kv.2 t ht

/-- every effective table has one entry per block name -/
theorem nodup_processed (ext : Table β) (imports : List (Table β)) (own : Table β)
    (h : (keys ext).Nodup) : (keys (processed ext imports own)).Nodup :=
  processed_eq ext imports own ▸ nodup_addAll _ ext h

/-- `tableOf` yields one entry per name at every fuel, so for the tables of imported templates
    the "last entry" in `precedence` is the entry -/
theorem nodup_tableOf (store : List (Bytes × Option Tmpl)) :
    ∀ (fuel : Nat) (name : Bytes), (keys (tableOf store fuel name)).Nodup := by
  intro fuel
  induction fuel with
  | zero => intro name; simp [tableOf, keys]
  | succ n ih =>
    intro name
    unfold tableOf
    split
    · rename_i t _
      apply nodup_processed
      cases t.ext with
      | none => simp [keys]
      | some e => exact ih e
    · simp [keys]

/-- **Precedence along the links of a template set**: in the effective table of template `t`,
    block `k` is `t`'s own last definition, else that of the latest imported template whose
    effective table has `k`, else what the effective table of the extended template says. -/
theorem tableOf_precedence (store : List (Bytes × Option Tmpl)) (fuel : Nat) (name k : Bytes) (t : Tmpl)
    (ht : store.find? (fun p => p.1 = name) = some (name, some t)) :
    alookup k (tableOf store (fuel + 1) name) =
      ((lookupLast k (ownRegs 64 t.root)).or
        (fromImports k (t.imports.map (tableOf store fuel)))).or
        (match t.ext with
         | some e => alookup k (tableOf store fuel e)
         | none => none) := by
  conv => lhs; unfold tableOf
  rw [ht]
  simp only
  rw [precedence]
  cases t.ext <;> simp [alookup]

/-- **Execute renders the root ancestor's body with the leaf's block table**: the list that is
    executed is the `Root` of the last template of the extends chain, and the block table of the
    first scope is the executed template's own effective table. -/
theorem execute_uses_root_body_and_leaf_table (fuel : Nat) (env : Env) (t root : Tmpl)
    (vars : List (Bytes × Val)) (data : Val) (hroot : rootOf env 64 t = some root) :
    execute fuel env t vars data =
      (match (recAt fuel).execList env root.root (initRT t vars data) with
       | .ok _ rt => .ok (rt.sink 0).reverse rt.log.reverse
       | .err e rt => .err e (rt.sink 0).reverse rt.log.reverse
       | .crash m rt => .crash m (rt.sink 0).reverse
       | .fuel => .fuel
       | .unsupported w => .unsupported w) ∧
    getBlockChain (initRT t vars data) = fun name chain =>
      getBlockChain { frames := [{ vars := some vars, blocks := t.blocks }], scope := [0], ctx := data } name chain := by
  constructor
  · unfold execute; rw [hroot]; rfl
  · rfl

/-- a template without `extends` is its own root; with `extends` the root is the root of the
    extended template: text outside blocks in an extending template is never executed -/
theorem rootOf_step (env : Env) (n : Nat) (t : Tmpl) :
    rootOf env (n + 1) t =
      (match t.ext with
       | none => some t
       | some e => match findTmpl env e with
         | some p => rootOf env n p
         | none => none) := rfl

/-- every block definition site and every yield looks the name up in the scope chain's tables,
    innermost first; at the top level of an execution that is the leaf's effective table -/
theorem top_level_lookup (t : Tmpl) (vars : List (Bytes × Val)) (data : Val) (k : Bytes) :
    getBlockChain (initRT t vars data) k (initRT t vars data).scope = alookup k t.blocks := by
  simp [initRT, getBlockChain, frameAt]
  cases alookup k t.blocks <;> rfl

end JetVerif.Props.C08
