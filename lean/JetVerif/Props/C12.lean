/-
  C12 — Evaluation failures are returned as errors naming the failing file and line; everything
  rendered before the failing action has already been written, nothing after it is.
-/
import JetVerif.Lemmas.EvalGood

namespace JetVerif.Props.C12
open JetVerif JetVerif.Eval

/-- **Output is a prefix.** When a statement list fails (at any depth, at any point), the
    destination holds everything it held before plus what was written up to the failure, in order:
    what had been rendered is not lost, and the sink is only ever extended. -/
theorem failure_keeps_rendered_prefix (fuel : Nat) (env : Env) (l : List Stmt) (rt rt' : RT) (e : Err)
    (k : Nat) (hwf : WF rt) (hk : rt.writer.idx = some k)
    (h : (recAt fuel).execList env l rt = .err e rt') : ∃ cs, rt'.sink k = cs ++ rt.sink k :=
  (((recGood_recAt fuel).execList env l).err hwf h).cur k hk

/-- and nothing rendered is ever taken back on success either -/
theorem success_extends_output (fuel : Nat) (env : Env) (l : List Stmt) (rt rt' : RT) (v : Val)
    (k : Nat) (hwf : WF rt) (hk : rt.writer.idx = some k)
    (h : (recAt fuel).execList env l rt = .ok v rt') : ∃ cs, rt'.sink k = cs ++ rt.sink k :=
  (((recGood_recAt fuel).execList env l).ok hwf h).1.cur k hk

/-- statements after the failing one are not executed: a failing statement ends its list -/
theorem failing_statement_ends_list (r : Rec) (env : Env) (s : Stmt) (rest : List Stmt) (rv : Val) (b : Bool)
    (rt rt1 : RT) (e : Err) (h : execStmt r env b s rt = .err e rt1) :
    execListGo r env (s :: rest) rv b rt = .err e (if b || stmtOpensLet s then popScope rt1 else rt1) := by
  simp [execListGo, h]

/-- an error raised with `node.errorf` carries that node's file and line -/
theorem errAt_carries_location (loc : Loc) (what : String) (rt : RT) :
    (errAt loc what : M Val) rt = .err { located := true, loc := loc, what := what } rt := rfl

/-- positioning an error a helper returned uses the node's own location and keeps positions that
    are already there -/
theorem locateP_sets_location (loc : Loc) (e : Err) (h : e.located = false) :
    locateP loc (.error (.err e) : P Val) = .error (.err { e with located := true, loc := loc }) := by
  simp [locateP_err, h]

theorem locateP_keeps_location (loc : Loc) (e : Err) (h : e.located = true) :
    locateP loc (.error (.err e) : P Val) = .error (.err e) := by
  simp [locateP_err, h]

/-- failures Jet detects itself are errors carrying the node's location, not runtime panics: an unknown
    identifier, and below an integer division by zero -/
theorem unknown_identifier_is_located_error (r : Rec) (env : Env) (loc : Loc) (name : Bytes) (rt : RT)
    (h : resolve env name rt = .ok none rt) :
    evalExprF r env (.ident loc name) rt = .err { located := true, loc := loc, what := "identifier not available" } rt := by
  simp [evalExprF, bind_def, h]
  rfl

theorem int_division_by_zero_is_located_error (lloc rloc : Loc) (a : Int) :
    evalMultiplicative lloc rloc Tok.div (.int a) (.int 0) =
      .error (.err { located := true, loc := rloc, what := "integer division by zero in multiplicative expression" }) := by
  simp [evalMultiplicative, isFloatV, toInt]
  rfl

end JetVerif.Props.C12
