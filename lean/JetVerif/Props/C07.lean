/-
  C07 — Variables are lexically scoped and stable; '.' is restored after every body.

  Model: JetVerif/Model/Eval.lean (scopes are heap cells linked into a chain, as in eval.go).
  The heavy lifting (the invariant for every construct, every fuel) is in Lemmas/EvalGood.lean.
-/
import JetVerif.Lemmas.EvalGood

namespace JetVerif.Props.C07
open JetVerif JetVerif.Eval

/-- **Scope and context restoration.** Whatever a statement list does — declare variables, range
    (rebinding '.'), yield blocks with parameters and content, include, exec, try — when it finishes
    the scope chain is *the same chain of scope objects* as before, and '.' , the block content and
    the output destination are what they were.  For every fuel (= every finishing run). -/
theorem scope_and_context_restored (fuel : Nat) (env : Env) (l : List Stmt) (rt rt' : RT) (v : Val)
    (hwf : WF rt) (h : (recAt fuel).execList env l rt = .ok v rt') :
    rt'.scope = rt.scope ∧ rt'.ctx = rt.ctx ∧ rt'.content = rt.content ∧ rt'.writer = rt.writer :=
  ((recGood_recAt fuel).execList env l).restores hwf h

/-- the same for expressions (which may run templates through exec / includeIfExists) -/
theorem expression_restores (fuel : Nat) (env : Env) (e : Expr) (rt rt' : RT) (v : Val)
    (hwf : WF rt) (h : (recAt fuel).evalExpr env e rt = .ok v rt') :
    rt'.scope = rt.scope ∧ rt'.ctx = rt.ctx ∧ rt'.content = rt.content ∧ rt'.writer = rt.writer :=
  ((recGood_recAt fuel).evalExpr env e).restores hwf h

/-- Execute starts from a well-formed runtime -/
theorem initRT_wf (t : Tmpl) (vars : List (Bytes × Val)) (data : Val) : WF (initRT t vars data) := by
  intro k hk
  simp [initRT, Wr.idx] at hk
  subst hk
  exact Nat.zero_le _

/-- **Resolution order**: innermost scope first, then outer scopes (the last one is the VarMap
    passed to Execute), then Set globals, then built-ins. -/
theorem resolve_order (env : Env) (name : Bytes) (rt : RT) (hdot : name ≠ [46]) :
    resolve env name rt =
      match lookupChain rt name rt.scope with
      | some (_, v) => .ok (some v.indirectEface) rt
      | none =>
        match alookup name env.globals with
        | some v => .ok (some v.indirectEface) rt
        | none =>
          match defaultVar name with
          | some v => .ok (some v) rt
          | none => .ok none rt :=
  -- the right-hand side is, word for word, the else branch of `resolve`'s test for "."
  if_neg hdot

/-- the chain is searched innermost first: a hit in the innermost frame wins -/
theorem lookup_innermost_first (rt : RT) (name : Bytes) (id : Nat) (rest : List Nat) (f : Frame)
    (vs : List (Bytes × Val)) (v : Val)
    (hf : frameAt rt id = some f) (hv : f.vars = some vs) (hl : alookup name vs = some v) :
    lookupChain rt name (id :: rest) = some (id, v) := by
  simp [lookupChain, hf, hv, hl]

/-- `=` fails when no visible scope declares the name, and then changes nothing -/
theorem assign_undeclared_fails (name : Bytes) (v : Val) (rt : RT)
    (h : lookupChain rt name rt.scope = none) : setValue name v rt = .ok false rt := by
  unfold setValue
  simp [h]

/-- `=` rebinds in the innermost scope that declares the name -/
theorem assign_innermost (name : Bytes) (v w : Val) (rt : RT) (id : Nat) (f : Frame)
    (vs : List (Bytes × Val))
    (h : lookupChain rt name rt.scope = some (id, w)) (hf : frameAt rt id = some f) (hv : f.vars = some vs) :
    setValue name v rt = .ok true (setFrame rt id { f with vars := some (aset name v vs) }) := by
  unfold setValue
  simp [h, hf, hv]

/-! Non-vacuity of the hypothesis `WF rt`: the runtime Execute starts from (here for an empty template)
    satisfies it -/
example : WF (initRT { name := [], ext := none, imports := [], blocks := [], root := [] } [] .invalid) :=
  initRT_wf _ _ _

end JetVerif.Props.C07
