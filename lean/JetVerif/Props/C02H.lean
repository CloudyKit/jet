/-
  C02, "leave no goroutine running afterwards": the hand-over between the lexer goroutine and the parser.

  * On success the parser has received every item (Props/C02P `successful_parse_receives_every_item`,
    end to end in Props/C02L `set_parse_leaves_no_goroutine`), so the goroutine has closed the channel and
    returned.
  * On the error path `Template.recover` drains the channel, whatever is left in it and whatever else it
    calls before or after (`error_path_empties_the_channel`), so the goroutine - whose every send is a plain
    blocking send on that one channel (`jet_handover_is_disciplined`) - runs to completion.
  Both facts about the code are regenerated from /repo on every run (factgen F13).
-/
import JetVerif.Model.Handover

namespace JetVerif.Props.C02H
open JetVerif JetVerif.Handover

/-- nothing un-empties the channel -/
theorem run_nil {α : Type} (acts : List Act) : run acts ([] : List α) = [] := by
  induction acts with
  | nil => rfl
  | cons a as ih => cases a <;> simpa [run, act] using ih

/-- **A drain anywhere in a sequence of actions lets the goroutine finish**, whatever it still had to send
    and whatever else happens before or after -/
theorem drain_lets_the_goroutine_finish {α : Type} (acts : List Act) (h : Act.drain ∈ acts) (l : List α) :
    finished (run acts l) = true := by
  induction acts generalizing l with
  | nil => cases h
  | cons a as ih =>
    have hstep : run (a :: as) l = run as (act a l) := rfl
    rw [hstep]
    cases List.mem_cons.mp h with
    | inl he => subst he; simp [act, run_nil, finished]
    | inr hm => exact ih hm _

/-- without a drain (and without reading to the end) the goroutine stays blocked: the converse, so the
    theorem above is not vacuous -/
theorem no_drain_no_receive_leaves_it_blocked {α : Type} (acts : List Act) (h : ∀ a ∈ acts, a = Act.other)
    (x : α) (l : List α) : finished (run acts (x :: l)) = false := by
  induction acts with
  | nil => rfl
  | cons a as ih =>
    have ha := h a (by simp)
    subst ha
    exact ih (fun b hb => h b (by simp [hb]))

/-- the error path of the code in /repo contains the drain (decided over the regenerated facts) -/
theorem jet_error_path_drains : Act.drain ∈ errorPathActs := by decide +kernel

/-- **On the error path the channel is emptied**: whatever the lexer goroutine still had to send when the
    parser gave up, it can send it, close the channel and return -/
theorem error_path_empties_the_channel {α : Type} (left : List α) : finished (run errorPathActs left) = true :=
  drain_lets_the_goroutine_finish _ jet_error_path_drains left

/-- one goroutine, one unbuffered channel, plain blocking sends by `emit` / `errorf` only, closed by the
    goroutine after its loop, received from by `nextItem` and `drain` only (decided over the regenerated facts) -/
theorem jet_handover_is_disciplined : disciplined = true := by decide +kernel

example : finished (run [Act.other, Act.drain, Act.other] [1, 2, 3]) = true := by decide
example : finished (run [Act.other, Act.other] [1, 2, 3]) = false := by decide

end JetVerif.Props.C02H
