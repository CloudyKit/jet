/-
  C11 — a Set and its templates are safe for concurrent use and give serial results.

  What a theorem can carry here is the *discipline*, not the scheduler:
  (1) a small abstract machine of threads, one reader/writer lock and one guarded location, in which
      a thread may only begin an access while holding the lock in a sufficient mode; for every
      interleaving no state with two overlapping conflicting accesses is reachable;
  (2) the premise of (1) for jet's three mutex-guarded maps (Set.globals, the struct field-index
      cache, InMemLoader.files), decided by the kernel over the access-site table factgen
      regenerates from the source on every run;
  (3) the parsed template is never assigned to by execution-phase code (regenerated table is empty);
  (4) per-execution state is private: the reset discipline of the pooled Runtime (C10).
  The rest — the Go memory model, sync.Map, sync.Pool, the race detector's view of the real
  interleavings — is observed by the race-detector stress stream, not proved.
-/
import JetVerif.Generated.Facts
import JetVerif.Props.C10

namespace JetVerif.Props.C11

/-! ### (1) lock discipline ⇒ no overlapping conflicting accesses, for every interleaving -/

inductive Mode where
  | R | W
  deriving DecidableEq

structure Th where
  held : Option Mode := none      -- the guard, as held by this thread
  acc : Option Bool := none       -- inside an access to the guarded location (`some true` = write)

abbrev State := Nat → Th

def upd (s : State) (i : Nat) (t : Th) : State := fun k => if k = i then t else s k

/-- one step of one thread, under the semantics of a reader/writer lock; `beginAcc` is where the
    discipline enters: a write needs the lock in W mode, a read needs it in either mode -/
inductive Step : State → State → Prop where
  | acquireR (s : State) (i : Nat) : (s i).held = none → (∀ j, (s j).held ≠ some Mode.W) →
      Step s (upd s i { s i with held := some Mode.R })
  | acquireW (s : State) (i : Nat) : (s i).held = none → (∀ j, (s j).held = none) →
      Step s (upd s i { s i with held := some Mode.W })
  | release (s : State) (i : Nat) : (s i).acc = none → Step s (upd s i { s i with held := none })
  | beginAcc (s : State) (i : Nat) (w : Bool) : (s i).acc = none →
      (w = true → (s i).held = some Mode.W) → (w = false → (s i).held ≠ none) →
      Step s (upd s i { s i with acc := some w })
  | endAcc (s : State) (i : Nat) : Step s (upd s i { s i with acc := none })

inductive Reachable : State → Prop where
  | init : Reachable (fun _ => {})
  | step {s s'} : Reachable s → Step s s' → Reachable s'

/-- two different threads are inside an access at once and one of them writes -/
def Race (s : State) : Prop :=
  ∃ i j wi wj, i ≠ j ∧ (s i).acc = some wi ∧ (s j).acc = some wj ∧ (wi = true ∨ wj = true)

structure Inv (s : State) : Prop where
  wr : ∀ i, (s i).acc = some true → (s i).held = some Mode.W
  rd : ∀ i w, (s i).acc = some w → (s i).held ≠ none
  excl : ∀ i j, i ≠ j → (s i).held = some Mode.W → (s j).held = none

theorem inv_init : Inv (fun _ => {}) := by
  refine ⟨?_, ?_, ?_⟩
  · intro i h; cases h
  · intro i w h; cases h
  · intro i j _ h; cases h

theorem upd_self (s : State) (i : Nat) (t : Th) : upd s i t i = t := by simp [upd]
theorem upd_other (s : State) {i k : Nat} (t : Th) (h : k ≠ i) : upd s i t k = s k := by simp [upd, h]

/-- **One thread changes, the invariant stays**, provided the thread's new state is consistent in itself
    (`wr`, `rd`) and with what the others hold (`w`: it holds W only if nobody else holds anything;
    `h`: it holds something only if nobody else holds W) -/
theorem Inv.upd {s : State} (hi : Inv s) (i : Nat) (t : Th)
    (wr : t.acc = some true → t.held = some Mode.W) (rd : ∀ w, t.acc = some w → t.held ≠ none)
    (w : t.held = some Mode.W → ∀ j, j ≠ i → (s j).held = none)
    (h : t.held ≠ none → ∀ j, j ≠ i → (s j).held ≠ some Mode.W) : Inv (upd s i t) := by
  refine ⟨fun k => ?_, fun k => ?_, fun a b hab => ?_⟩
  · by_cases e : k = i
    · subst e; rw [upd_self]; exact wr
    · rw [upd_other s t e]; exact hi.wr k
  · by_cases e : k = i
    · subst e; rw [upd_self]; exact rd
    · rw [upd_other s t e]; exact hi.rd k
  · by_cases ea : a = i
    · subst ea; rw [upd_self, upd_other s t (Ne.symm hab)]; exact fun ha => w ha b (Ne.symm hab)
    · rw [upd_other s t ea]
      by_cases eb : b = i
      · subst eb; rw [upd_self]
        intro ha
        cases hh : t.held with
        | none => rfl
        | some m => exact absurd ha (h (by simp [hh]) a ea)
      · rw [upd_other s t eb]; exact hi.excl a b hab

theorem inv_step {s s' : State} (hi : Inv s) (hs : Step s s') : Inv s' := by
  -- a thread that keeps what it holds asks nothing new of the others
  have keepW : ∀ i, (s i).held = some Mode.W → ∀ j, j ≠ i → (s j).held = none :=
    fun i h j hj => hi.excl i j (Ne.symm hj) h
  have keepH : ∀ i, (s i).held ≠ none → ∀ j, j ≠ i → (s j).held ≠ some Mode.W :=
    fun i h j hj hw => h (hi.excl j i hj hw)
  cases hs with
  | acquireR i hn hw =>
    exact hi.upd i _ (fun h => absurd hn (hi.rd i true h)) (fun _ _ => by simp) (fun h => by cases h) (fun _ j _ => hw j)
  | acquireW i hn hall =>
    exact hi.upd i _ (fun _ => rfl) (fun _ _ => by simp) (fun _ j _ => hall j) (fun _ j _ => by rw [hall j]; simp)
  | release i hacc =>
    exact hi.upd i _ (fun h => by rw [hacc] at h; cases h) (fun w h => by rw [hacc] at h; cases h)
      (fun h => by cases h) (fun h => absurd rfl h)
  | beginAcc i w hacc hw hr =>
    refine hi.upd i _ (fun h => hw (by simpa using h)) (fun w' h => ?_) (keepW i) (keepH i)
    cases w with
    | true => rw [show (s i).held = _ from hw rfl]; simp
    | false => exact hr rfl
  | endAcc i =>
    exact hi.upd i _ (fun h => by cases h) (fun w h => by cases h) (keepW i) (keepH i)

theorem inv_no_race {s : State} (hi : Inv s) : ¬ Race s := by
  intro ⟨i, j, wi, wj, hij, hai, haj, hw⟩
  cases hw with
  | inl h =>
    subst h
    have := hi.excl i j hij (hi.wr i hai)
    exact hi.rd j wj haj this
  | inr h =>
    subst h
    have := hi.excl j i (fun e => hij e.symm) (hi.wr j haj)
    exact hi.rd i wi hai this

/-- **No interleaving reaches a race**: whatever the number of threads and whatever the schedule,
    if every write access is begun holding the lock in W mode and every read access holding it in
    some mode, two conflicting accesses never overlap. -/
theorem disciplined_is_race_free {s : State} (h : Reachable s) : ¬ Race s := by
  have : Inv s := by
    induction h with
    | init => exact inv_init
    | step _ hs ih => exact inv_step ih hs
  exact inv_no_race this

/-! ### (2) jet's guarded maps are accessed with that discipline -/

/-- eval.go / set.go / loader.go / dump.go of /repo (the regenerated access-site table): every write
    site of the three mutex-guarded maps holds the guard in W mode, every read site holds it in R or
    W mode, and each map has at least one write site under the lock (so the table is not vacuous) -/
theorem jet_lock_discipline :
    Facts.lockShapeOk = true ∧
    (∀ s ∈ Facts.lockSites, (s.2.2.1 = "write" → s.2.2.2 = "W") ∧
                             (s.2.2.1 = "read" → (s.2.2.2 = "R" ∨ s.2.2.2 = "W"))) ∧
    (∀ m ∈ ["Set.globals", "cachedStructsFieldIndex", "InMemLoader.files"],
        ∃ s ∈ Facts.lockSites, s.1 = m ∧ s.2.2.1 = "write" ∧ s.2.2.2 = "W") := by decide +kernel

/-! ### (3) execution never assigns to the parsed template -/

/-- no assignment in eval.go, exec.go, default.go, func.go, dump.go or ranger.go targets a field of
    `Template` or of a node struct -/
theorem execution_does_not_write_the_ast : Facts.execPhaseAstWrites = [] := by decide

/-! ### (4) per-execution state is private to the execution -/

/-- all state an execution can observe is assigned by that execution or reset before the Runtime
    went back to the pool (C10) — so two executions, concurrent or not, share no mutable
    interpreter state through the pool -/
theorem runtime_state_is_private (before : List (String → Bool)) :
    ∀ f ∈ Facts.runtimeFieldsUsed,
      C10.execInit C10.jet before.length (C10.runHist C10.jet 0 before C10.fresh) f = none ∨
      C10.execInit C10.jet before.length (C10.runHist C10.jet 0 before C10.fresh) f = some before.length :=
  C10.jet_no_residue before

end JetVerif.Props.C11
