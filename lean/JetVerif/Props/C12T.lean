/-
  C12 (totality part) — when evaluation fails for a reason the engine can detect itself, `Execute`
  returns an error instead of panicking: from a syntax tree with the shapes the parser produces
  (`TmplWf`, `EnvWf`; Lemmas/EvalWf.lean), whatever the variables and the data, the ONLY panic
  `Template.Execute` re-raises is one raised by a called Go function (`strings.Repeat` with a
  negative count, reachable as `{{ repeat("x", -1) }}`: by design).

  Two developments compose here: Lemmas/EvalTotal.lean (`Tot`: every crash site that is not a
  scope primitive's or a callee's is unreachable from well-formed syntax) and
  Lemmas/EvalScope.lean (`Scoped`: the scope primitives' sites are unreachable from a well-formed
  runtime).  See the classification table at the top of Lemmas/EvalTotal.lean.
-/
import JetVerif.Lemmas.EvalTotal
import JetVerif.Props.C12S

namespace JetVerif.Props.C12T
open JetVerif JetVerif.Eval

/-- statement lists, from any runtime whose scope chain is well-formed (`SWF`) and whose block
    tables / content closures hold well-formed syntax (`RWF`): a crash is a callee panic, and the
    runtime left behind satisfies both invariants again on every outcome -/
theorem only_callee_panics (fuel : Nat) (env : Env) (he : EnvWf env) (l : List Stmt) (hl : StmtsWf l)
    (rt : RT) (h : SWF rt) (hw : RWF rt) :
    match (recAt fuel).execList env l rt with
    | .ok _ rt' => SWF rt' ∧ RWF rt'
    | .err _ rt' => SWF rt' ∧ RWF rt'
    | .crash msg rt' => CalleePanic msg ∧ SWF rt' ∧ RWF rt'
    | _ => True := by
  have hs := ((recScoped_recAt fuel).execList env l).post rt h
  have ht := ((recTot_recAt he fuel).execList l hl).post rt hw
  cases hr : (recAt fuel).execList env l rt with
  | ok v rt' => rw [hr] at hs ht; exact ⟨hs.1.swf, ht.1⟩
  | err e rt' => rw [hr] at hs ht; exact ⟨hs.swf, ht⟩
  | crash m rt' => rw [hr] at hs ht; exact ⟨ht.1.resolve_right hs.1, hs.2.swf, ht.2⟩
  | fuel => trivial
  | unsupported w => trivial

/-- the runtime `Template.Execute` starts from holds well-formed syntax -/
theorem initRT_rwf (t : Tmpl) (ht : TmplWf t) (vars : List (Bytes × Val)) (data : Val) :
    RWF (initRT t vars data) :=
  ⟨List.forall_mem_singleton.mpr ht.blocks, nofun⟩

/-- **The only panic Execute re-raises is one raised by a called Go function.** -/
theorem execute_only_repanics_callee_panics (fuel : Nat) (env : Env) (t : Tmpl) (vars : List (Bytes × Val))
    (data : Val) (ht : TmplWf t) (he : EnvWf env) (msg : String) (out : List Chunk) :
    execute fuel env t vars data = .crash msg out → CalleePanic msg := by
  intro h
  obtain ⟨root, rt', hroot, hr⟩ := execute_crash h
  have hp := only_callee_panics fuel env he root.root (rootOf_wf he _ _ _ ht hroot).root _
    (C12S.initRT_swf t vars data) (initRT_rwf t ht vars data)
  rw [hr] at hp
  exact hp.1

/-! ### the hypotheses matter, they admit the template with the callee panic, and the predicates are not empty -/

/-- `{{ repeat("x", -1) }}`, which reaches the callee panic, is well-formed (`repeatTmpl_wf`): the theorem's
    hypotheses do not exclude it.  That it re-panics is not proved here. -/
def repeatTmpl : Tmpl :=
  { name := [], ext := none, imports := [], blocks := [],
    root := [.action ⟨[], 1⟩ none (some ⟨⟨[], 1⟩,
      [{ loc := ⟨[], 1⟩, base := .call ⟨[], 1⟩ (.ident ⟨[], 1⟩ [114, 101, 112, 101, 97, 116])
            [.strLit ⟨[], 1⟩ [120], .numLit ⟨[], 1⟩ true false false (-1) 0 0] true false,
         args := [], argsNonNil := false, hasSlot := false }]⟩)] }

theorem repeatTmpl_wf : TmplWf repeatTmpl := by
  refine ⟨fun p hp => by simp [repeatTmpl] at hp, ?_⟩
  simp [repeatTmpl, StmtsWf, StmtWf, SetOWf, PipeOWf, PipeWf]
  exact ⟨by simp [ExprWf, ExprsWf, SlotOk, isUnderscore], by simp [ExprsWf], fun _ => by simp [SlotOk]⟩

/-- without well-formedness the evaluator does panic: a pipeline without commands -/
theorem empty_pipeline_panics (r : Rec) (env : Env) (rt : RT) :
    evalPipeline r env ⟨⟨[], 1⟩, []⟩ rt = .crash "index out of range [0] with length 0" rt := rfl

/-- ... a `:=` whose left side is a field -/
theorem let_of_field_panics (r : Rec) (env : Env) (rt : RT) (v : Val) :
    assignOne r env true (.field ⟨[], 1⟩ [[120]]) v rt =
      .crash "interface conversion: not *IdentifierNode" rt := rfl

/-- ... a yield that is not `yield content` without parameter list, when the block exists -/
theorem yield_without_params_panics (r : Rec) (env : Env) (b : BlockN) :
    execYield r env ⟨[], 1⟩ [98] none none none false
        { frames := [{ vars := some [], blocks := [([98], b)] }], scope := [0] } =
      .crash "nil pointer dereference (yield without parameter list)"
        { frames := [{ vars := some [], blocks := [([98], b)] }], scope := [0] } := rfl

/-- non-vacuity: a concrete well-formed template with an assignment, a range, a yield and a piped
    call:
    `{{ x := 1 }}{{ range i, v := .Items }}{{ v | f(_, 2) | g }}{{ end }}{{ yield b(p=x) }}` -/
def demoTmpl : Tmpl :=
  let l : Loc := ⟨[], 1⟩
  { name := [], ext := none, imports := [],
    blocks := [([98], { loc := l, name := [98], params := [⟨[112], some (.numLit l true false false 0 0 0)⟩],
                        ctx := none, body := [.text l [104, 105]], content := none })],
    root := [
      .action l (some { loc := l, isLet := true, lookup := false, left := [.ident l [120]],
                        right := [.numLit l true false false 1 0 0] }) none,
      .rangeS l (some { loc := l, isLet := true, lookup := false, left := [.ident l [105], .ident l [118]],
                        right := [.field l [[73, 116, 101, 109, 115]]] }) none
        [.action l none (some ⟨l,
          [{ loc := l, base := .ident l [118], args := [], argsNonNil := false, hasSlot := false },
           { loc := l, base := .ident l [102], args := [.underscore l, .numLit l true false false 2 0 0],
             argsNonNil := true, hasSlot := true },
           { loc := l, base := .ident l [103], args := [], argsNonNil := false, hasSlot := false }]⟩)]
        none,
      .yield l [98] (some [⟨[112], some (.ident l [120])⟩]) none none false] }

example : TmplWf demoTmpl := by
  refine ⟨?_, ?_⟩
  · intro p hp
    simp [demoTmpl] at hp
    subst hp
    exact ⟨by intro q hq; simp at hq; subst hq; simp [ExprOWf, ExprWf], by simp [ExprOWf],
      by simp [StmtsWf, StmtWf], by simp [StmtsOWf]⟩
  · simp only [demoTmpl, StmtsWf, StmtWf, SetOWf, PipeOWf, StmtsOWf, RangeHeadWf, ParamsOWf, ExprOWf]
    refine ⟨⟨⟨?_, ?_, ?_, ?_⟩, trivial⟩, ⟨⟨?_, ?_, ?_⟩, ⟨⟨trivial, ?_⟩, trivial⟩, trivial⟩,
      ⟨fun _ => rfl, ?_, trivial, trivial⟩, trivial⟩
    · simp [ExprsWf, ExprWf]
    · intro l hl; simp at hl; subst hl; simp [LeftOk]
    · intro h; cases h
    · intro _; simp
    · simp
    · intro l hl; exact Or.inl rfl
    · exact ⟨_, _, rfl, by simp [ExprWf]⟩
    · simp only [PipeWf]
      refine ⟨⟨by simp [ExprWf], by simp [ExprsWf], fun _ => by simp [SlotOk]⟩, ?_⟩
      intro c hc
      simp at hc
      rcases hc with rfl | rfl
      · exact ⟨by simp [ExprWf], by simp [ExprsWf, ExprWf], fun h => by cases h⟩
      · exact ⟨by simp [ExprWf], by simp [ExprsWf], fun h => by cases h⟩
    · intro q hq; simp at hq; subst hq; simp [ExprOWf, ExprWf]

example : CalleePanic "strings: negative Repeat count" := rfl
example : ¬ CalleePanic "index out of range" := by simp [CalleePanic]

end JetVerif.Props.C12T
