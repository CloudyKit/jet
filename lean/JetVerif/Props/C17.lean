/-
  C17 — isset never fails and is true exactly when every argument exists and is non-nil.
-/
import JetVerif.Lemmas.EvalEqns

namespace JetVerif.Props.C17
open JetVerif JetVerif.Eval

/-- outcomes that are not failures of the evaluated program: a result, or the model's own
    "ran out of fuel" / "outside the modelled fragment" -/
def NoFail {α} : Res α → Prop
  | .err _ _ => False
  | .crash _ _ => False
  | _ => True

/-- **`Runtime.isSet` never fails**, whatever expression it is given and whatever the data looks
    like: any panic while evaluating the argument is turned into `false`. -/
theorem isSet_never_fails (r : Rec) (env : Env) (e : Expr) (rt : RT) : NoFail (isSetF r env e rt) := by
  unfold isSetF
  rcases recoverFalse_total (isSetBody r env e) rt with ⟨b, rt', h⟩ | h | ⟨w, h⟩ <;> (rw [h]; trivial)

theorem isSetE_never_fails (fuel : Nat) (env : Env) (e : Expr) (rt : RT) :
    NoFail ((recAt fuel).isSetE env e rt) := by
  cases fuel with
  | zero => trivial
  | succ n => exact isSet_never_fails (recAt n) env e rt

theorem argIsSetAt_never_fails {r : Rec} (hr : ∀ env e rt, NoFail (r.isSetE env e rt)) (env : Env) (a : Args)
    (j : Nat) (rt : RT) : NoFail (a.isSetAt r env j rt) := by
  unfold Args.isSetAt
  cases a.exprs[j]? with
  | none => trivial
  | some e =>
    dsimp only
    cases hu : isUnderscore e with
    | true => simp only [if_true]; cases a.piped <;> trivial
    | false => simp only [Bool.false_eq_true, if_false]; exact hr env e rt

/-- `Arguments.IsSet(i)` never fails either (piped value, slot or expression), whatever evaluator it calls
    back into, as long as that one's `isSetE` does not -/
theorem argIsSet_never_fails {r : Rec} (hr : ∀ env e rt, NoFail (r.isSetE env e rt)) (env : Env) (a : Args)
    (i : Nat) (rt : RT) : NoFail (a.isSet r env i rt) := by
  have hat := fun j => argIsSetAt_never_fails hr env a j rt
  unfold Args.isSet
  cases a.piped with
  | none => exact hat i
  | some p =>
    dsimp only
    cases hs : (!a.hasSlot) with
    | false => simp only [Bool.false_eq_true, if_false]; exact hat i
    | true =>
      simp only [if_true]
      cases hi : (i == 0) with
      | true => simp only [if_true]; trivial
      | false => simp only [Bool.false_eq_true, if_false]; exact hat _

/-- **the `isset` built-in with at least one argument never fails**: it evaluates to true or false -/
theorem isset_builtin_never_fails (fuel : Nat) (env : Env) (a : Args) :
    ∀ (n i : Nat) (rt : RT), NoFail (issetLoop (recAt fuel) env a n i rt) := by
  intro n
  induction n with
  | zero => intro i rt; trivial
  | succ n ih =>
    intro i rt
    unfold issetLoop
    split
    · trivial
    · have h := argIsSet_never_fails (isSetE_never_fails fuel) env a i rt
      rw [bind_def]
      revert h
      -- what `isSet` leaves other than a result is the outcome of the loop
      cases a.isSet (recAt fuel) env i rt with
      | ok s rt' =>
        intro _
        dsimp only
        split
        · trivial
        · exact ih _ _
      | _ => exact id

/-- zero numbers, empty strings and `false` count as existing: `notNil` only rejects invalid values
    and nil pointers/maps/slices/interfaces -/
theorem zero_values_are_set :
    Val.notNil (.int 0) = true ∧ Val.notNil (.str []) = true ∧ Val.notNil (.bool false) = true ∧
    Val.notNil (.float 0) = true ∧ Val.notNil (.uint 0) = true := ⟨rfl, rfl, rfl, rfl, rfl⟩

theorem nil_values_are_not_set :
    Val.notNil .invalid = false ∧ Val.notNil (.ptr "T" none) = false ∧ Val.notNil (.iface .invalid) = false ∧
    Val.notNil (.smap [] true true) = false ∧ Val.notNil (.slice [] true true) = false := ⟨rfl, rfl, rfl, rfl, rfl⟩

/-- a piped argument is judged like a written one: by the value itself (D30) -/
theorem piped_isset_judges_value (r : Rec) (env : Env) (p : Val) (rt : RT) :
    ({ exprs := [], hasSlot := false, piped := some p } : Args).isSet r env 0 rt = .ok (Val.notNil p) rt := rfl

/-! ### exactness on field paths: true exactly when every step resolves to something that is not nil -/

/-- every step of a field path resolves - by the engine's own `resolveIndex`, the function every field
    access goes through - to a value that is not nil -/
def PathResolves : Val → List Bytes → Prop
  | _, [] => True
  | v, f :: rest => ∃ x, resolveIndex v .invalid (some f) = .ok x ∧ notNilP x = .ok true ∧ PathResolves x rest

/-- `isset(.a.b.c)` on a value is true **exactly** when `.a`, `.a.b` and `.a.b.c` all resolve and none of
    them is nil; a step that fails to resolve (missing field, nil pointer on the way, index into a scalar)
    or resolves to nil makes it not-true, whatever comes after -/
theorem isSetFieldPath_true_iff : ∀ (names : List Bytes) (v : Val),
    isSetFieldPath v names = .ok true ↔ PathResolves v names
  | [], v => by simp [isSetFieldPath, PathResolves, pure, Except.pure]
  | f :: rest, v => by
    unfold isSetFieldPath PathResolves
    simp only [P.bind_eq_ok]
    refine exists_congr fun x => and_congr_right fun _ => ⟨?_, ?_⟩
    · rintro ⟨b, hb, h⟩
      cases b with
      | false => cases h
      | true => exact ⟨hb, (isSetFieldPath_true_iff rest x).mp h⟩
    · rintro ⟨hb, h⟩
      exact ⟨true, hb, (isSetFieldPath_true_iff rest x).mpr h⟩

/-- what exists along a longer path exists along every prefix of it -/
theorem pathResolves_prefix : ∀ (p q : List Bytes) (v : Val), PathResolves v (p ++ q) → PathResolves v p
  | [], _, _, _ => trivial
  | f :: p, q, v, h => by
    obtain ⟨x, hx, hn, hrest⟩ := h
    exact ⟨x, hx, hn, pathResolves_prefix p q x hrest⟩

/-- `Runtime.isSet` on a field expression `.a.b.c`: it answers true exactly when the path resolves from
    the current context - and, with `isSet_never_fails`, answers false or stays outside the model otherwise -/
theorem isset_field_exact (r : Rec) (env : Env) (loc : Loc) (names : List Bytes) (rt : RT) :
    (∃ rt', isSetF r env (.field loc names) rt = .ok true rt') ↔ PathResolves rt.ctx names := by
  rw [← isSetFieldPath_true_iff, ← recoverFalse_liftP_true _ rt]
  rfl

/-- the premises are satisfiable and the distinction is real: in a struct with a present field, a nil
    pointer field and nothing else, the first path resolves, the other two do not -/
example :
    let v : Val := .struct "T" [([65], .int 0), ([80], .ptr "T" none)]
    isSetFieldPath v [[65]] = .ok true ∧ isSetFieldPath v [[80]] = .ok false ∧
    isSetFieldPath v [[80], [65]] = .ok false ∧ (∃ e, isSetFieldPath v [[90]] = .error e) :=
  ⟨rfl, rfl, rfl, _, rfl⟩

end JetVerif.Props.C17
