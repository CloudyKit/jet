/-
  C10 — Execute is a pure function of its inputs: no residue from earlier executions.

  Two layers.
  (1) The evaluator model's `Eval.execute` takes the template set, variables and data and nothing
      else: there is no pooled state in its signature, so in the model purity holds by construction;
      the history stream of the correspondence check compares the real `Template.Execute`, run in
      arbitrary histories on one goroutine (pooled runtimes reused), with that stateless model.
  (2) What makes the real code stateless is the reset discipline of the pooled `*Runtime`.  That
      discipline is modelled here as a taint machine over the runtime's fields and proved residue-free
      for all histories from a coverage condition; the condition is then discharged, by kernel
      evaluation, for the field lists factgen regenerates from eval.go / exec.go on every run.
-/
import JetVerif.Generated.Facts
import JetVerif.Model.Eval

namespace JetVerif.Props.C10
open JetVerif

/-- for each field: `none` = holds its zero value, `some k` = holds a value written by execution `k` -/
abbrev St := String → Option Nat

structure Discipline where
  used : List String      -- fields any method of the runtime reads or writes
  always : List String    -- fields Execute assigns unconditionally before running
  resets : List String    -- fields Runtime.recover resets before Put

variable (d : Discipline)

/-- a brand-new runtime from `pool_State.New` -/
def fresh : St := fun _ => none

/-- the assignments at the top of `Template.Execute`, in execution number `k` -/
def execInit (k : Nat) (s : St) : St := fun f => if f ∈ d.always then some k else s f

/-- whatever the execution does — completes, fails or panics anywhere: it may leave a value of its
    own in any subset (`touch`) of the fields the runtime's methods use -/
def execBody (k : Nat) (touch : String → Bool) (s : St) : St :=
  fun f => if f ∈ d.used ∧ touch f = true then some k else s f

/-- `Runtime.recover` (deferred, so it runs however the body ended), then `pool_State.Put` -/
def recoverSt (s : St) : St := fun f => if f ∈ d.resets then none else s f

def oneExec (k : Nat) (touch : String → Bool) (s : St) : St :=
  recoverSt d (execBody d k touch (execInit d k s))

/-- a history: execution `k`, `k+1`, … each with its own (arbitrary) behaviour -/
def runHist : Nat → List (String → Bool) → St → St
  | _, [], s => s
  | k, t :: ts, s => runHist (k + 1) ts (oneExec d k t s)

/-- coverage: every field the runtime uses is assigned by Execute or reset by recover -/
def Covered : Prop := ∀ f ∈ d.used, f ∈ d.always ∨ f ∈ d.resets

instance : Decidable (Covered d) := by unfold Covered; infer_instance

/-- pool invariant: a used field that Execute does not assign is at its zero value -/
def PoolInv (s : St) : Prop := ∀ f ∈ d.used, f ∉ d.always → s f = none

theorem poolInv_fresh : PoolInv d fresh := fun _ _ _ => rfl

/-- one execution establishes the invariant whatever the runtime held before: `recover` resets every used field
    that Execute does not assign -/
theorem poolInv_oneExec (hc : Covered d) (k : Nat) (touch : String → Bool) (s : St) :
    PoolInv d (oneExec d k touch s) := by
  intro f hu hna
  have hr : f ∈ d.resets := (hc f hu).resolve_left hna
  simp [oneExec, recoverSt, hr]

theorem poolInv_runHist (hc : Covered d) (ts : List (String → Bool)) :
    ∀ (k : Nat) (s : St), PoolInv d s → PoolInv d (runHist d k ts s) := by
  induction ts with
  | nil => intro k s h; exact h
  | cons t ts ih => intro k s _; exact ih (k + 1) _ (poolInv_oneExec d hc k t s)

/-- **No residue, for every history.**  Whatever executions ran before (any number, each ending
    anywhere — normally, with an error, with a panic — after touching any fields), when execution
    number `k` starts its body every field it can observe holds either its zero value or a value
    assigned by this very execution. -/
theorem no_residue (hc : Covered d) (before : List (String → Bool)) (k0 : Nat) :
    let k := k0 + before.length
    ∀ f ∈ d.used, execInit d k (runHist d k0 before fresh) f = none ∨
                  execInit d k (runHist d k0 before fresh) f = some k := by
  intro k f hu
  have hinv := poolInv_runHist d hc before k0 fresh (poolInv_fresh d)
  by_cases ha : f ∈ d.always
  · right; simp [execInit, ha]
  · left; simp [execInit, ha]; exact hinv f hu ha

/-- the converse, so the coverage condition is not stronger than needed: if a used field is neither
    assigned nor reset, a two-execution history exists in which the second execution observes a
    value the first one left behind -/
theorem uncovered_leaks (f : String) (hu : f ∈ d.used) (ha : f ∉ d.always) (hr : f ∉ d.resets) :
    execInit d 1 (runHist d 0 [fun _ => true] fresh) f = some 0 := by
  simp [runHist, oneExec, execInit, recoverSt, execBody, ha, hr, hu]

/-! ### jet's discipline, regenerated from the source on every run -/

def jet : Discipline :=
  { used := Facts.runtimeFieldsUsed, always := Facts.executeAssignsAlways, resets := Facts.recoverResets }

/-- eval.go / exec.go of /repo (the regenerated field lists): every field of the pooled Runtime that any of its methods
    touches is assigned at the top of Execute or reset in recover -/
theorem jet_fields_covered : Covered jet := by decide +kernel

/-- the shape factgen relies on: the field lists were extracted from the forms it understands,
    every function that takes a runtime from the pool defers `recover` immediately, and `recover`
    puts the runtime back only after the resets -/
theorem jet_reset_shape :
    Facts.runtimeShapeOk = true ∧ Facts.poolGettersDeferRecover = true ∧
    Facts.recoverPutsAfterResets = true ∧ Facts.poolGetters ≠ [] := by decide +kernel

/-- **jet: no residue for every history** -/
theorem jet_no_residue (before : List (String → Bool)) :
    ∀ f ∈ Facts.runtimeFieldsUsed,
      execInit jet before.length (runHist jet 0 before fresh) f = none ∨
      execInit jet before.length (runHist jet 0 before fresh) f = some before.length := by
  have h := no_residue jet jet_fields_covered before 0
  simp only [Nat.zero_add] at h
  exact h

/-- the pools this account covers are all the pools there are: one for the Runtime (above) and the
    three ranger pools, whose objects are completely re-initialised by `Setup` on every `Get` (every
    field of every pooled ranger type is assigned there).  A new `sync.Pool` anywhere in the
    package, or a ranger field `Setup` does not assign, breaks this theorem. -/
theorem pools_are_accounted_for :
    Facts.syncPools = ["eval.go:1", "ranger.go:3"] ∧
    Facts.pooledRangers.length = 3 ∧
    (∀ r ∈ Facts.pooledRangers, ∀ f ∈ r.2.1, f ∈ r.2.2) := by decide +kernel

/-- non-vacuity: the discipline is about real fields (content and context are among them) and the
    content closure — the field only `recover` clears — is covered by the reset, not by Execute -/
example : "Runtime.content" ∈ jet.used ∧ "Runtime.content" ∉ jet.always ∧ "Runtime.content" ∈ jet.resets := by
  decide +kernel

/-- In the evaluator model an execution starts from `initRT`, which is built from the template, the
    variables and the data only: scope chain of one frame, no content closure, top-level writer,
    empty sinks and log. -/
theorem execute_starts_clean (t : Tmpl) (vars : List (Bytes × Val)) (data : Val) :
    (Eval.initRT t vars data).content = none ∧ (Eval.initRT t vars data).scope = [0] ∧
    (Eval.initRT t vars data).ctx = data ∧ (Eval.initRT t vars data).log = [] ∧
    (∀ k, (Eval.initRT t vars data).sink k = []) ∧
    (Eval.initRT t vars data).frames = [{ vars := some vars, blocks := t.blocks }] :=
  ⟨rfl, rfl, rfl, rfl, fun _ => rfl, rfl⟩

end JetVerif.Props.C10
