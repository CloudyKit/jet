/-
  C02, the lexer part: the scanner of lex.go (modelled state function by state function in
  Model/Lex.lean, compared with the real lexer item by item on every run) never panics, whatever the
  source and whatever the delimiter configuration.

  In the model every slice and index of lex.go that can panic is an explicit `crash` outcome
  (`l.input[l.pos:]`, `l.input[l.start:l.pos]` in emit, `l.input[l.pos-1:]` in lexSpace, `word[0]`,
  the first byte of a delimiter), and so is a loop that would not end within the fuel the model gives
  it (input length + 2).  A panic there is a panic in the lexer goroutine - unrecoverable for the
  caller of Parse / GetTemplate.

  The proof is the cursor invariant `0 ≤ start ≤ pos ≤ len(input)` carried through all twelve state
  functions, extended by "every field item recorded so far is a dot followed by a byte", with the fact
  each state relies on when it is entered ("the left delimiter starts here", "one space has been read",
  "the rune at the cursor is alphanumeric", ...) established by the state function that selects it.
  Writing that invariant down for lexRightDelim is what turned up D56.  The lexer results below are the
  parts of one theorem, `lexRun_done` (Lemmas/LexNoCrash.lean), which holds for every delimiter record
  satisfying `WfD` (what `mkDelims` produces).

  Termination: the invariant carries a floor under `start`, so each state function's lemma also says
  how far it moved `start` (`delta`), and the potential `4·(len - start) + rank(state)` drops at every
  step (`lexer_terminates`).  The entry facts needed for that are the ones the Go code relies on
  silently: lexSpace is entered only where `atRightDelim` has just said no (otherwise its backup would
  emit an empty space item for ever), lexNumber only on a sign, dot or digit (otherwise scanNumber
  would consume nothing), the quote states only after the opening quote.
-/
import JetVerif.Lemmas.LexNoCrash
import JetVerif.Lemmas.ParseTermProd
import JetVerif.Props.C02P
import JetVerif.Props.C02H
import JetVerif.Lemmas.LexEof

namespace JetVerif.Props.C02L
open JetVerif JetVerif.Lex JetVerif.Utf8

/-- **The lexer never panics**, for every source and every configuration of action and comment
    delimiters: no slice or index out of range, no loop that outruns the input. -/
theorem lexer_never_crashes (l r lc rc input : Bytes) (m : String) (e : List Event) :
    lexRun (mkDelims l r lc rc) input ≠ .crash m e := by
  obtain ⟨evs, h, _⟩ := lexRun_done (mkDelims_wf l r lc rc) input
  rw [h]; nofun

/-- every item the lexer hands to the parser - error items included - is positioned inside the
    source, and every field item is a dot followed by at least one byte -/
theorem lexer_items_are_well_formed (l r lc rc input : Bytes) :
    ∀ ev ∈ (lexRun (mkDelims l r lc rc) input).evs, EvOk input.length ev ∧ FieldEv ev := by
  obtain ⟨evs, h, hev⟩ := lexRun_done (mkDelims_wf l r lc rc) input
  rw [h]
  exact fun ev he => ⟨(hev ev he).1, (hev ev he).2.1⟩

/-- one step of the state machine from any state satisfying the invariant and the entry fact of the
    state function: no crash, invariant and next entry fact re-established -/
theorem every_state_function_is_safe (inp : Bytes) (d : Delims) (lo : Int) (st : StateId) (s : St)
    (h : B inp d lo s) (he : Entry st s) : Ok (step st s) (Steps inp d st s) := step_ok st s h he

/-- every step of the state machine lowers the potential `4·(bytes not yet emitted or ignored) +
    rank(state)`: a state function either moves `start` forward, or hands over - consuming nothing -
    to a state of lower rank (`text` to a delimiter or comment state, `insideAction` to a scanning
    state or the right delimiter, `space` to the right delimiter) -/
theorem every_step_lowers_the_potential (inp : Bytes) (d : Delims) (lo : Int) (st st' : StateId) (s s' : St)
    (h : B inp d lo s) (he : Entry st s) (hs : step st s = .ok (some st') s') :
    potential st' s' < potential st s := by
  have := step_ok st s h he
  rw [hs] at this
  exact potential_step st st' s s' h this

/-- **The lexer always ends**, and ends normally: for every source and every delimiter
    configuration the state machine reaches its final state (`eof` or an error item emitted) within
    `4·len + 16` state transitions - there is no input on which the lexer goroutine spins, and the
    fuel the model runs on never decides an outcome. -/
theorem lexer_terminates (l r lc rc input : Bytes) :
    ∃ evs, lexRun (mkDelims l r lc rc) input = .done evs :=
  (lexRun_done (mkDelims_wf l r lc rc) input).imp fun _ h => h.1

/-- what the lexer produces is what the parser theorems assume (`WfItems`) -/
theorem lexer_output_satisfies_parser_assumptions (l r lc rc input : Bytes) (evs : List Event)
    (hl : lexRun (mkDelims l r lc rc) input = .done evs) : C02P.WfItems input (Parse.itemsOf evs) := by
  refine ⟨?_, lexRun_items_eof_last (mkDelims l r lc rc) input evs hl⟩
  intro it hit
  have hpos := lexer_items_are_well_formed l r lc rc input
  rw [hl] at hpos
  simp only [Outcome.evs] at hpos
  simp only [Parse.itemsOf, tokensOf, List.mem_map, List.mem_filterMap] at hit
  obtain ⟨⟨t, a, v⟩, ⟨ev, hev, hfm⟩, rfl⟩ := hit
  obtain ⟨hok, hf⟩ := hpos ev hev
  cases ev with
  | emit t' a' b' v' =>
    cases hfm
    exact ⟨hok.1, Int.le_trans hok.2.1 hok.2.2, hf⟩
  | ignore k a' b' => cases hfm
  | err a' msg =>
    cases hfm
    exact ⟨hok.1, hok.2, nofun⟩

/-- **Lexer and parser together**: `Set.parse` on any source under any delimiter configuration, with
    any literal table and any loader, never crashes. -/
theorem parseSource_never_crashes (cfg : Parse.Cfg) (l r lc rc name input : Bytes) (w : String) :
    Parse.parseSource cfg (mkDelims l r lc rc) name input ≠ .crash w := by
  intro hc
  obtain ⟨evs, hl⟩ := lexer_terminates l r lc rc input
  unfold Parse.parseSource at hc
  rw [hl] at hc
  exact C02P.parseItems_never_crashes cfg name input (Parse.itemsOf evs)
    (lexer_output_satisfies_parser_assumptions l r lc rc input evs hl) w hc

/-- a syntax error of `Set.parse` names a line of the source, for any source and configuration -/
theorem parseSource_error_names_a_source_line (cfg : Parse.Cfg) (l r lc rc name input : Bytes)
    (line : Nat) (msg : Parse.Msg)
    (he : Parse.parseSource cfg (mkDelims l r lc rc) name input = .err line msg) :
    1 ≤ line ∧ line ≤ 1 + Parse.countNl input := by
  obtain ⟨evs, hl⟩ := lexer_terminates l r lc rc input
  unfold Parse.parseSource at he
  rw [hl] at he
  exact C02P.syntax_error_names_a_source_line cfg name input _ _
    (lexer_output_satisfies_parser_assumptions l r lc rc input evs hl) _ _ (Parse.parseItems_eq_err he)

/-- **`Set.parse` leaves no goroutine behind** (the model's part of it): for every source, delimiter
    configuration, literal table and loader - if the parser returns a tree, the lexer goroutine has nothing
    left to send (it sent `itemEOF` last, the parser received it, the goroutine closed the channel and
    returned); if the parser fails, what `Template.recover` does on the error path - as regenerated from the
    source - lets the goroutine send whatever it had left and finish. -/
theorem set_parse_leaves_no_goroutine (cfg : Parse.Cfg) (l r lc rc name input : Bytes) (evs : List Event)
    (hl : lexRun (mkDelims l r lc rc) input = .done evs) :
    match Parse.parseTemplate cfg (Parse.fuelFor (Parse.itemsOf evs))
        { input := input, name := name, toks := Parse.itemsOf evs } with
    | .ok _ s' => Handover.finished s'.toks = true
    | .err _ _ => ∀ left : List Parse.Item, Handover.finished (Handover.run Handover.errorPathActs left) = true
    | _ => True := by
  have hw := lexer_output_satisfies_parser_assumptions l r lc rc input evs hl
  cases hp : Parse.parseTemplate cfg (Parse.fuelFor (Parse.itemsOf evs))
      { input := input, name := name, toks := Parse.itemsOf evs } with
  | ok r s =>
    have := C02P.successful_parse_receives_every_item cfg name input _ _ hw r s hp
    simp [Handover.finished, this]
  | err l2 m2 => exact fun left => C02H.error_path_empties_the_channel left
  | crash w => trivial
  | fuel => trivial
  | unsupported w => trivial

/-! ### the parser always ends -/

/-- **The parser never runs out of the fuel `Set.parse`'s model gives it** (40 units per item plus
    160): for every item sequence - well-formed or not, ending in `eof`, in an error item or in nothing
    at all - every literal table and every loader.  The measure is the number of items not yet consumed
    (error items handed out by the closed channel weigh nothing); every production either consumes or
    calls a production of lower rank, and every loop consumes in every round
    (Lemmas/ParseTerm.lean, Lemmas/ParseTermProd.lean). -/
theorem parser_terminates (cfg : Parse.Cfg) (name input : Bytes) (toks : List Parse.Item) :
    Parse.parseItems cfg name input toks ≠ .fuel := by
  intro hc
  have h := Parse.parseTemplate_T cfg (Parse.fuelFor toks) toks.length (by unfold Parse.fuelFor; omega)
    { input := input, name := name, toks := toks } (Parse.initial_mu name input toks)
  rwa [Parse.parseItems_eq_fuel hc] at h

/-- lexer and parser together never run out of fuel: the model's fuel decides no outcome -/
theorem parseSource_terminates (cfg : Parse.Cfg) (l r lc rc name input : Bytes) :
    Parse.parseSource cfg (mkDelims l r lc rc) name input ≠ .fuel := by
  intro hc
  unfold Parse.parseSource at hc
  obtain ⟨evs, hl⟩ := lexer_terminates l r lc rc input
  rw [hl] at hc
  exact parser_terminates cfg name input _ hc

/-- **Parsing is total**: for every source, every delimiter configuration, every loader and every
    literal table the model of `Set.parse` yields a template or a located error (or, where the
    literal table handed to the model does not cover a literal of the source, says so) - it neither
    crashes nor fails to end. -/
theorem parseSource_total (cfg : Parse.Cfg) (l r lc rc name input : Bytes) :
    (∃ t, Parse.parseSource cfg (mkDelims l r lc rc) name input = .ok t) ∨
    (∃ line msg, Parse.parseSource cfg (mkDelims l r lc rc) name input = .err line msg ∧
      1 ≤ line ∧ line ≤ 1 + Parse.countNl input) ∨
    (∃ w, Parse.parseSource cfg (mkDelims l r lc rc) name input = .unsupported w) := by
  cases h : Parse.parseSource cfg (mkDelims l r lc rc) name input with
  | ok t => exact Or.inl ⟨t, rfl⟩
  | err line msg =>
    exact Or.inr (Or.inl ⟨line, msg, rfl, parseSource_error_names_a_source_line cfg l r lc rc name input line msg h⟩)
  | crash w => exact absurd h (parseSource_never_crashes cfg l r lc rc name input w)
  | fuel => exact absurd h (parseSource_terminates cfg l r lc rc name input)
  | unsupported w => exact Or.inr (Or.inr ⟨w, rfl⟩)

end JetVerif.Props.C02L
