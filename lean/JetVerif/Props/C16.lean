/-
  C16 — Cache coherence: identical hits, failures never cached, dev mode reloads, Parse never
  caches, extensions in configured order.   Model: JetVerif/Model/SetM.lean.
-/
import JetVerif.Model.SetM

namespace JetVerif.Props.C16
open JetVerif.SetM JetVerif.Path

/-- `s'` extends `s`'s call trace by events that all satisfy `P`; loader contents, mode and
    extension list are untouched -/
structure Step (P : Ev → Prop) (s s' : SetSt) : Prop where
  trace : ∃ evs, s'.trace = evs ++ s.trace ∧ ∀ e ∈ evs, P e
  files : s'.files = s.files
  dev : s'.dev = s.dev
  exts : s'.exts = s.exts

theorem Step.refl (P : Ev → Prop) (s : SetSt) : Step P s s := ⟨⟨[], rfl, by simp⟩, rfl, rfl, rfl⟩

theorem Step.trans {P : Ev → Prop} {a b c : SetSt} (h1 : Step P a b) (h2 : Step P b c) : Step P a c := by
  obtain ⟨e1, t1, p1⟩ := h1.trace
  obtain ⟨e2, t2, p2⟩ := h2.trace
  exact ⟨⟨e2 ++ e1, by rw [t2, t1, List.append_assoc], List.forall_mem_append.mpr ⟨p2, p1⟩⟩, h2.files.trans h1.files,
    h2.dev.trans h1.dev, h2.exts.trans h1.exts⟩

theorem Step.ev {P : Ev → Prop} (s : SetSt) (e : Ev) (h : P e) : Step P s (ev e s) :=
  ⟨⟨[e], rfl, List.forall_mem_singleton.mpr h⟩, rfl, rfl, rfl⟩

theorem Step.mono {P Q : Ev → Prop} {a b : SetSt} (h : Step P a b) (hpq : ∀ e, P e → Q e) : Step Q a b := by
  obtain ⟨evs, t, p⟩ := h.trace
  exact ⟨⟨evs, t, fun e he => hpq e (p e he)⟩, h.files, h.dev, h.exts⟩

def isGet : Ev → Prop
  | .get _ => True
  | _ => False

def isLoaderEv : Ev → Prop
  | .exists_ _ => True
  | .open_ _ => True
  | _ => False

def notPut : Ev → Prop
  | .put _ _ => False
  | _ => True

/-- the calls a lookup may make, by mode (`dev`) and caching flag -/
def allowed (dev cacheAfter : Bool) : Ev → Prop
  | .exists_ _ => True
  | .open_ _ => True
  | .get _ => dev = false
  | .put _ _ => dev = false ∧ cacheAfter = true

/-- calls allowed + the cache itself only changes when caching is on and dev mode is off -/
structure Frame (c : Bool) (s s' : SetSt) : Prop where
  step : Step (allowed s.dev c) s s'
  cache : s'.cache = s.cache ∨ (s.dev = false ∧ c = true)

theorem Frame.refl (c : Bool) (s : SetSt) : Frame c s s := ⟨Step.refl _ _, .inl rfl⟩

theorem Frame.trans {c : Bool} {a b d : SetSt} (h1 : Frame c a b) (h2 : Frame c b d) : Frame c a d := by
  refine ⟨h1.step.trans (by have := h2.step; rw [h1.step.dev] at this; exact this), ?_⟩
  rcases h1.cache with e1 | e1
  · rcases h2.cache with e2 | e2
    · exact .inl (e2.trans e1)
    · exact .inr ⟨by rw [← h1.step.dev]; exact e2.1, e2.2⟩
  · exact .inr e1

theorem frame_ev_loader (c : Bool) (s : SetSt) (e : Ev) (h : isLoaderEv e) : Frame c s (ev e s) := by
  refine ⟨Step.ev s e ?_, .inl rfl⟩
  cases e <;> simp_all [isLoaderEv, allowed]

theorem frame_probeLoader (c : Bool) (s : SetSt) (p : Bytes) (es : List Bytes) :
    Frame c s (probeLoader s p es).2 := by
  induction es generalizing s with
  | nil => exact Frame.refl c s
  | cons e es ih =>
    simp only [probeLoader]
    split
    · exact frame_ev_loader c s (.exists_ (p ++ e)) trivial
    · exact (frame_ev_loader c s (.exists_ (p ++ e)) trivial).trans (ih _)

/-- the cache probe at the head of `getTemplate`: skipped in development mode, one `Cache.Get` otherwise -/
theorem frame_cacheProbe (c : Bool) (s : SetSt) (p : Bytes) :
    Frame c s (if s.dev = true then ((none : Option Nat), s) else fromCache s p).2 := by
  split
  · exact Frame.refl c s
  · have hdev : s.dev = false := by simpa using ‹¬ s.dev = true›
    exact ⟨Step.ev s (.get p) hdev, .inl rfl⟩

theorem snd_of_eq {α β} {p : α × β} {a : α} {b : β} (h : p = (a, b)) : b = p.2 := by rw [h]

/-- appending to `tmpls` is no event and touches nothing a frame speaks of -/
theorem Frame.tmpls {c : Bool} {s s2 : SetSt} (h : Frame c s s2) (ts : List Tmpl) :
    Frame c s { s2 with tmpls := ts } :=
  ⟨⟨h.step.trace, h.step.files, h.step.dev, h.step.exts⟩, h.cache⟩

/-- the one place the cache is written: after a load, with caching on and outside development mode -/
theorem frame_put {c : Bool} {s s3 : SetSt} (h : Frame c s s3) (p : Bytes) (id : Nat) (hc : c = true)
    (hd : s3.dev = false) : Frame c s (ev (.put p id) { s3 with cache := (p, id) :: s3.cache }) := by
  have hdev : s.dev = false := by rw [← h.step.dev]; exact hd
  exact ⟨h.step.trans ⟨⟨[.put p id], rfl, List.forall_mem_singleton.mpr ⟨hdev, hc⟩⟩, rfl, rfl, rfl⟩,
    .inr ⟨hdev, hc⟩⟩

theorem frame_all : ∀ fuel : Nat,
    (∀ s p c ps, Frame c s (getTemplate fuel s p c ps).2) ∧
    (∀ s n c ps, Frame c s (loadFromFile fuel s n c ps).2) ∧
    (∀ s n refs c ps, Frame c s (refsLoop fuel s n refs c ps).2) := by
  intro fuel
  induction fuel with
  | zero => exact ⟨fun s _ c _ => Frame.refl c s, fun s _ c _ => Frame.refl c s, fun s _ _ c _ => Frame.refl c s⟩
  | succ f ih =>
    obtain ⟨ihG, ihL, ihR⟩ := ih
    refine ⟨fun s p c ps => ?_, fun s n c ps => ?_, fun s n refs c ps => ?_⟩
    · have hprobe := frame_cacheProbe c s p
      simp only [getTemplate]
      split
      · rename_i h; exact snd_of_eq h ▸ hprobe
      · rename_i s1 h
        have h1 : Frame c s s1 := snd_of_eq h ▸ hprobe
        split
        · rename_i h; exact h1.trans (snd_of_eq h ▸ frame_probeLoader c s1 p s1.exts)
        · rename_i canonical s2 h
          have h2 : Frame c s s2 := h1.trans (snd_of_eq h ▸ frame_probeLoader c s1 p s1.exts)
          split
          · rename_i id s3 h
            have h3 : Frame c s s3 := h2.trans (snd_of_eq h ▸ ihL s2 canonical c ps)
            split
            · rename_i hc
              simp only [Bool.and_eq_true, Bool.not_eq_true'] at hc
              exact frame_put h3 p id hc.1 hc.2
            · exact h3
          · exact h2.trans (ihL s2 canonical c ps)
    · simp only [loadFromFile]
      have h1 := frame_ev_loader c s (.open_ n) trivial
      split
      · exact Frame.refl c s
      · split
        · rename_i cnt _
          have hr := h1.trans (ihR (ev (.open_ n) s) n cnt.refs c (ps ++ [n]))
          split
          · rename_i h
            rw [← snd_of_eq h] at hr
            split
            · exact hr
            · exact hr.tmpls _
          · exact hr
        · exact h1
    · cases refs with
      | nil => exact Frame.refl c s
      | cons r rest =>
        simp only [refsLoop]
        have hg := ihG s (resolveSibling r n) c ps
        split
        · rename_i h; exact (snd_of_eq h ▸ hg).trans (ihR _ n rest c ps)
        · exact hg

theorem getTemplate_files (fuel : Nat) (s : SetSt) (p : Bytes) (c : Bool) (ps : List Bytes) :
    (getTemplate fuel s p c ps).2.files = s.files := ((frame_all fuel).1 s p c ps).step.files

theorem loadFromFile_files (fuel : Nat) (s : SetSt) (n : Bytes) (c : Bool) (ps : List Bytes) :
    (loadFromFile fuel s n c ps).2.files = s.files := ((frame_all fuel).2.1 s n c ps).step.files

theorem refsLoop_files (fuel : Nat) (s : SetSt) (n : Bytes) (refs : List Bytes) (c : Bool) (ps : List Bytes) :
    (refsLoop fuel s n refs c ps).2.files = s.files := ((frame_all fuel).2.2 s n refs c ps).step.files

/-- **Development mode always goes to the loader**: no lookup calls `Cache.Get` or `Cache.Put`. -/
theorem dev_mode_never_uses_cache (fuel : Nat) (s : SetSt) (p : Bytes) (c : Bool) (ps : List Bytes)
    (hdev : s.dev = true) : Step isLoaderEv s (getTemplate fuel s p c ps).2 ∧ (getTemplate fuel s p c ps).2.cache = s.cache := by
  have h := (frame_all fuel).1 s p c ps
  refine ⟨h.step.mono ?_, ?_⟩
  · intro e he
    cases e <;> simp_all [allowed, isLoaderEv]
  · exact h.cache.resolve_right (by simp [hdev])

/-- **Parse never caches**: with `cacheAfterParsing = false` nothing — neither the template nor what
    its extends/import clauses pull in — is put into the cache. -/
theorem parse_never_caches (fuel : Nat) (s : SetSt) (n : Bytes) (refs : List Bytes) (ps : List Bytes) :
    Step notPut s (refsLoop fuel s n refs false ps).2 ∧ (refsLoop fuel s n refs false ps).2.cache = s.cache := by
  have h := (frame_all fuel).2.2 s n refs false ps
  refine ⟨h.step.mono ?_, ?_⟩
  · intro e he
    cases e <;> simp_all [allowed, notPut]
  · exact h.cache.resolve_right (by simp)

theorem parseOp_never_caches (fuel : Nat) (s : SetSt) (name : Bytes) (c : Content) :
    (parseOp fuel s name c).2.cache = s.cache := by
  unfold parseOp
  split
  · rfl
  · rename_i n _
    rw [← (parse_never_caches fuel s n c.refs [n]).2]
    split
    · rename_i h
      rw [h]
      split <;> rfl
    · rfl

/-- extensions that do not exist are probed, in order, and passed over -/
theorem probeLoader_misses (s : SetSt) (p : Bytes) (pre rest : List Bytes)
    (hpre : ∀ x ∈ pre, (lookupP (p ++ x) s.files).isSome = false) :
    probeLoader s p (pre ++ rest) =
      probeLoader { s with trace := (pre.map fun x => Ev.exists_ (p ++ x)).reverse ++ s.trace } p rest := by
  induction pre generalizing s with
  | nil => rfl
  | cons x xs ih =>
    rw [List.cons_append, probeLoader, hpre x (by simp)]
    simp only [Bool.false_eq_true, if_false]
    rw [ih (ev (.exists_ (p ++ x)) s) fun y hy => hpre y (by simp [hy])]
    simp [ev]

/-- **Extensions are tried strictly in the configured order and the first existing file wins.** -/
theorem extension_order (s : SetSt) (p : Bytes) (pre post : List Bytes) (e : Bytes)
    (hpre : ∀ x ∈ pre, (lookupP (p ++ x) s.files).isSome = false)
    (he : (lookupP (p ++ e) s.files).isSome = true) :
    (probeLoader s p (pre ++ e :: post)).1 = some (p ++ e) ∧
    (probeLoader s p (pre ++ e :: post)).2.trace =
      (Ev.exists_ (p ++ e)) :: (pre.map (fun x => Ev.exists_ (p ++ x))).reverse ++ s.trace := by
  rw [probeLoader_misses s p pre _ hpre]
  simp [probeLoader, he, ev]

/-- nothing exists: every extension is probed, in order, and the lookup fails -/
theorem all_extensions_probed_on_miss (s : SetSt) (p : Bytes) (es : List Bytes)
    (h : ∀ x ∈ es, (lookupP (p ++ x) s.files).isSome = false) :
    (probeLoader s p es).1 = none ∧
    (probeLoader s p es).2.trace = (es.map (fun x => Ev.exists_ (p ++ x))).reverse ++ s.trace := by
  have := probeLoader_misses s p es [] h
  rw [List.append_nil] at this
  rw [this]; exact ⟨rfl, rfl⟩

/-- outside development mode a successful caching lookup leaves its answer in the cache, under the
    request path -/
theorem getTemplate_ok_cached (f : Nat) (s s' : SetSt) (p : Bytes) (ps : List Bytes) (id : Nat)
    (hdev : s.dev = false) (h : getTemplate (f + 1) s p true ps = (.ok id, s')) :
    lookupP p s'.cache = some id ∧ s'.dev = false := by
  simp only [getTemplate, hdev, Bool.false_eq_true, if_false, fromCache, cacheGet] at h
  split at h
  · rename_i id0 s1 hhit
    cases h
    simp only [Prod.mk.injEq] at hhit
    obtain ⟨h1, rfl⟩ := hhit
    exact ⟨h1, hdev⟩
  · rename_i s1 hhit
    obtain rfl := snd_of_eq hhit
    split at h
    · cases h
    · rename_i canonical s2 hpl
      split at h
      · rename_i id1 s3 hl
        have hd3 : s3.dev = false := by
          rw [snd_of_eq hl, ((frame_all f).2.1 s2 canonical true ps).step.dev, snd_of_eq hpl,
            (frame_probeLoader true _ p _).step.dev]
          exact hdev
        simp only [hd3, Bool.true_and, Bool.not_false, if_true] at h
        cases h
        exact ⟨by simp [ev, lookupP], rfl⟩
      · rename_i hne
        exact (hne id s' h).elim

/-- **A hit is identical and silent.**  Outside development mode, once `GetTemplate` has answered
    for a path, asking again returns the *same* template and touches the cache only: no loader
    call at all. (Any fuel, any referring context.) -/
theorem second_lookup_is_identical_and_silent (f1 f2 : Nat) (s s' : SetSt) (p : Bytes) (parsing parsing' : List Bytes)
    (id : Nat) (hdev : s.dev = false)
    (h : getTemplate (f1 + 1) s p true parsing = (.ok id, s')) :
    ∃ s'', getTemplate (f2 + 1) s' p true parsing' = (.ok id, s'') ∧ Step isGet s' s'' := by
  obtain ⟨hc, hd⟩ := getTemplate_ok_cached f1 s s' p parsing id hdev h
  refine ⟨ev (.get p) s', ?_, Step.ev s' _ trivial⟩
  simp only [getTemplate, hd, Bool.false_eq_true, if_false, fromCache, cacheGet, hc]

/-- **A name that is not remembered is resolved by the extension order.**  Outside development mode,
    when nothing is cached under the request path itself, the lookup loads exactly the first
    candidate `p ++ e` (in the configured order) that exists in the loader - whatever else the cache
    holds, in particular entries of other names that happen to equal `p ++ extension`. -/
theorem unremembered_name_follows_extension_order (fuel : Nat) (s : SetSt) (p : Bytes) (c : Bool) (ps : List Bytes)
    (pre post : List Bytes) (e : Bytes) (hexts : s.exts = pre ++ e :: post)
    (hmiss : lookupP p s.cache = none)
    (hpre : ∀ x ∈ pre, (lookupP (p ++ x) s.files).isSome = false)
    (he : (lookupP (p ++ e) s.files).isSome = true) :
    ∃ s2, s2.files = s.files ∧ s2.cache = s.cache ∧
      getTemplate (fuel + 1) s p c ps =
        (match loadFromFile fuel s2 (p ++ e) c ps with
         | (.ok id, s3) =>
           if c && !s3.dev then (.ok id, ev (.put p id) { s3 with cache := (p, id) :: s3.cache }) else (.ok id, s3)
         | other => other) := by
  -- the state after the (missed) cache probe
  let s1 : SetSt := (if s.dev = true then ((none : Option Nat), s) else fromCache s p).2
  have hhit : (if s.dev = true then ((none : Option Nat), s) else fromCache s p) = (none, s1) := by
    by_cases hd : s.dev = true
    · simp [s1, hd]
    · simp [s1, hd, fromCache, cacheGet, hmiss]
  have hf1 : Frame false s s1 := frame_cacheProbe false s p
  have hs1f := hf1.step.files
  have hord := extension_order s1 p pre post e (by rw [hs1f]; exact hpre) (by rw [hs1f]; exact he)
  refine ⟨(probeLoader s1 p (pre ++ e :: post)).2, ?_, ?_, ?_⟩
  · rw [(frame_probeLoader c s1 p (pre ++ e :: post)).step.files]; exact hs1f
  · rw [(frame_probeLoader false s1 p _).cache.resolve_right (by simp)]; exact hf1.cache.resolve_right (by simp)
  · simp only [getTemplate]
    rw [hhit]
    simp only [hf1.step.exts, hexts]
    cases hpl : probeLoader s1 p (pre ++ e :: post) with
    | mk r s2 =>
      rw [hpl] at hord
      simp only at hord
      rw [hord.1]
      rfl

end JetVerif.Props.C16
