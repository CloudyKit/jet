/-
  C02 — parsing is total: any source yields a template or an error, never a crash.
  Model: the lexer (Model/Lex.lean, invariant in Lemmas/LexInv.lean) and the abstract Set of
  Model/SetM.lean, whose `getTemplate` / `loadFromFile` / `refsLoop` follow extends/import
  references with the `parsing` stack of set.go / parse.go (cycle detection).
-/
import JetVerif.Props.C16
import JetVerif.Lemmas.LexInv

namespace JetVerif.Props.C02
open JetVerif JetVerif.SetM JetVerif.Path
open JetVerif.Props.C16 (getTemplate_files loadFromFile_files refsLoop_files frame_probeLoader snd_of_eq)

/-! ### loading follows extends/import references to a bounded depth, cycles included -/

/-- file names not yet on the `parsing` stack -/
def remaining (files : List (Bytes × FileSt)) (parsing : List Bytes) : Nat :=
  ((files.map Prod.fst).filter fun n => !parsing.contains n).length

/-- the longest extends/import header of any file -/
def maxRefs : List (Bytes × FileSt) → Nat
  | [] => 0
  | (_, .ok c) :: rest => max c.refs.length (maxRefs rest)
  | _ :: rest => maxRefs rest

theorem lookup_refs_le (files : List (Bytes × FileSt)) (name : Bytes) (c : Content)
    (h : lookupP name files = some (.ok c)) : c.refs.length ≤ maxRefs files ∧ name ∈ files.map Prod.fst := by
  induction files with
  | nil => simp [lookupP] at h
  | cons hd tl ih =>
    obtain ⟨k, v⟩ := hd
    unfold lookupP at h
    by_cases hk : k = name
    · simp only [hk, if_true] at h
      cases h
      exact ⟨by simp [maxRefs]; exact Nat.le_max_left _ _, by simp [hk]⟩
    · simp only [hk, if_false] at h
      have := ih h
      refine ⟨?_, by simp [this.2]⟩
      cases v with
      | ok c' => simp [maxRefs]; exact Nat.le_trans this.1 (Nat.le_max_right _ _)
      | openFails => simpa [maxRefs] using this.1
      | readFails => simpa [maxRefs] using this.1

/-- pushing `name` takes exactly `name` out of the names still to go -/
theorem remaining_push (files : List (Bytes × FileSt)) (parsing : List Bytes) (name : Bytes)
    (hm : name ∈ files.map Prod.fst) (hn : parsing.contains name = false) :
    remaining files (parsing ++ [name]) < remaining files parsing := by
  have h : ((files.map Prod.fst).filter fun n => !(parsing ++ [name]).contains n) =
      ((files.map Prod.fst).filter fun n => !parsing.contains n).filter (· != name) := by
    rw [List.filter_filter]
    congr 1; funext n
    rw [List.contains_append, List.contains_cons, List.contains_nil, Bool.or_false, Bool.not_or, Bool.and_comm]; rfl
  unfold remaining
  rw [h]
  exact List.length_filter_lt_length_iff_exists.mpr ⟨name, List.mem_filter.mpr ⟨hm, by rw [hn]; rfl⟩, by simp⟩

/-- what "terminates within the budget and leaves the loader's files alone" means for a result -/
def Fine (files : List (Bytes × FileSt)) (r : R × SetSt) : Prop := r.1 ≠ .fuel ∧ r.2.files = files

/-- one file name more on the stack pays for a header (`R` references) and three levels of calls -/
theorem push_pays (files : List (Bytes × FileSt)) (R : Nat) (hR : maxRefs files ≤ R) (parsing : List Bytes)
    (name : Bytes) (c : Content) (hl : lookupP name files = some (.ok c)) (hn : parsing.contains name = false) :
    c.refs.length + 3 + remaining files (parsing ++ [name]) * (R + 3) ≤ remaining files parsing * (R + 3) := by
  have hlk := lookup_refs_le files name c hl
  have h := Nat.mul_le_mul_right (R + 3) (remaining_push files parsing name hlk.2 hn)
  rw [Nat.succ_mul] at h
  have := hlk.1
  omega

/-- fuel `remaining · (R+3)` (+ what the call at hand needs) is enough, whatever the reference graph:
    only `loadFromFile` pushes a name, and each push pays for the levels below it -/
theorem load_fuel (files : List (Bytes × FileSt)) (R : Nat) (hR : maxRefs files ≤ R) : ∀ fuel : Nat,
    (∀ s name ca parsing, s.files = files → 1 + remaining files parsing * (R + 3) ≤ fuel →
      (loadFromFile fuel s name ca parsing).1 ≠ .fuel) ∧
    (∀ s p ca parsing, s.files = files → 2 + remaining files parsing * (R + 3) ≤ fuel →
      (getTemplate fuel s p ca parsing).1 ≠ .fuel) ∧
    (∀ s name refs ca parsing, s.files = files → refs.length + 3 + remaining files parsing * (R + 3) ≤ fuel →
      (refsLoop fuel s name refs ca parsing).1 ≠ .fuel) := by
  intro fuel
  induction fuel with
  | zero => exact ⟨fun _ _ _ _ _ h => by omega, fun _ _ _ _ _ h => by omega, fun _ _ _ _ _ _ h => by omega⟩
  | succ f ih =>
    obtain ⟨ihL, ihG, ihR⟩ := ih
    refine ⟨?_, ?_, ?_⟩
    · intro s name ca parsing hs hf
      simp only [loadFromFile]
      split
      · simp
      · rename_i hc
        split
        · rename_i c hl
          have := ihR (ev (.open_ name) s) name c.refs ca (parsing ++ [name]) hs
            (by have := push_pays files R hR parsing name c (hs ▸ hl) (by simpa using hc); omega)
          split
          · split <;> simp
          · exact this
        · simp
    · intro s p ca parsing hs hf
      simp only [getTemplate]
      split
      · simp
      · rename_i s1 hhit
        have h1 : s1.files = files := by rw [snd_of_eq hhit]; split <;> exact hs
        split
        · simp
        · rename_i canonical s2 hpl
          have h2 : s2.files = files := by
            rw [snd_of_eq hpl, (frame_probeLoader ca s1 p s1.exts).step.files]; exact h1
          have := ihL s2 canonical ca parsing h2 (by omega)
          split
          · split <;> simp
          · exact this
    · intro s name refs ca parsing hs hf
      cases refs with
      | nil => simp [refsLoop]
      | cons ref rest =>
        simp only [refsLoop]
        simp only [List.length_cons] at hf
        have hg := ihG s (resolveSibling ref name) ca parsing hs (by omega)
        split
        · rename_i s1 hgt
          exact ihR s1 name rest ca parsing (by rw [snd_of_eq hgt, getTemplate_files]; exact hs) (by omega)
        · exact hg

/-- the three mutually recursive lookup functions need at most `k * (R + 3)` (+ small constants)
    levels of recursion when `k` file names are not yet on the parsing stack and no header has more
    than `R` references — whatever the reference graph looks like -/
theorem load_bounded (files : List (Bytes × FileSt)) (R : Nat) (hR : maxRefs files ≤ R) :
    ∀ k : Nat,
      (∀ (fuel : Nat) (s : SetSt) (name : Bytes) (ca : Bool) (parsing : List Bytes),
        s.files = files → remaining files parsing ≤ k → fuel ≥ 1 + k * (R + 3) →
        Fine files (loadFromFile fuel s name ca parsing)) ∧
      (∀ (fuel : Nat) (s : SetSt) (p : Bytes) (ca : Bool) (parsing : List Bytes),
        s.files = files → remaining files parsing ≤ k → fuel ≥ 2 + k * (R + 3) →
        Fine files (getTemplate fuel s p ca parsing)) ∧
      (∀ (refs : List Bytes) (fuel : Nat) (s : SetSt) (name : Bytes) (ca : Bool) (parsing : List Bytes),
        s.files = files → remaining files parsing ≤ k → fuel ≥ refs.length + 3 + k * (R + 3) →
        Fine files (refsLoop fuel s name refs ca parsing)) := by
  intro k
  have mono : ∀ parsing, remaining files parsing ≤ k → remaining files parsing * (R + 3) ≤ k * (R + 3) :=
    fun _ h => Nat.mul_le_mul_right _ h
  refine ⟨fun fuel s name ca parsing hs hk hf =>
      ⟨(load_fuel files R hR fuel).1 s name ca parsing hs ?_, (loadFromFile_files ..).trans hs⟩,
    fun fuel s p ca parsing hs hk hf =>
      ⟨(load_fuel files R hR fuel).2.1 s p ca parsing hs ?_, (getTemplate_files ..).trans hs⟩,
    fun refs fuel s name ca parsing hs hk hf =>
      ⟨(load_fuel files R hR fuel).2.2 s name refs ca parsing hs ?_, (refsLoop_files ..).trans hs⟩⟩
  all_goals have := mono parsing hk; omega

/-- **GetTemplate always comes back**: with `n` files in the loader and headers of at most `R`
    references, a lookup never needs more than `2 + n·(R+3)` nested calls — for every reference
    graph, extends/import cycles and self-references included — and it returns a template or an
    error. -/
theorem getTemplate_terminates (s : SetSt) (name : Bytes) :
    (getTemplateOp (2 + s.files.length * (maxRefs s.files + 3)) s name).1 ≠ .fuel := by
  have h := (load_bounded s.files (maxRefs s.files) (Nat.le_refl _) s.files.length).2.1
    (2 + s.files.length * (maxRefs s.files + 3)) s (resolveSibling name [slash]) true [] rfl
    (by unfold remaining; simp; exact Nat.le_trans (List.length_filter_le _ _) (by simp))
    (Nat.le_refl _)
  exact h.1

/-- a template that (transitively) extends or imports itself is an error, not an endless load:
    a name already on the parsing stack is refused immediately -/
theorem self_reference_is_error (fuel : Nat) (s : SetSt) (name : Bytes) (ca : Bool) (parsing : List Bytes)
    (h : parsing.contains name = true) :
    loadFromFile (fuel + 1) s name ca parsing = (.err, s) := by
  unfold loadFromFile
  rw [if_pos h]

/-! ### the lexer -/

/-- the scan of every source under every delimiter configuration ends, in one of three ways, and
    the items produced so far are well-formed (adjacent, verbatim slices of the source) -/
theorem lexer_total (d : Lex.Delims) (input : Bytes) :
    (∃ evs, Lex.lexRun d input = .done evs ∨ (∃ m, Lex.lexRun d input = .crash m evs) ∨
        Lex.lexRun d input = .outOfFuel evs) ∧
    Lex.Chain input (Lex.lexRun d input).events.reverse := by
  refine ⟨?_, Lex.lexRun_chain d input⟩
  cases h : Lex.lexRun d input with
  | done e => exact ⟨e, Or.inl rfl⟩
  | crash m e => exact ⟨e, Or.inr (Or.inl ⟨m, rfl⟩)⟩
  | outOfFuel e => exact ⟨e, Or.inr (Or.inr rfl)⟩

end JetVerif.Props.C02
