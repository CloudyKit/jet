/-
  C14 — pipelines, prefix calls and piped-argument slots are equivalent to plain calls.
  Model: `Args`, `Args.get`, `Args.num`, `evaluateArgs`, `evalArgsLoop`, `pipelineLoop`,
  `evalPipeline`, `evalCommandPipe` in JetVerif/Model/Eval.lean; the built-in table is regenerated
  from default.go (Facts.builtinTable).
-/
import JetVerif.Generated.Facts
import JetVerif.Lemmas.EvalEqns

namespace JetVerif.Props.C14
open JetVerif JetVerif.Eval

variable (r : Rec) (env : Env)

/-- `e` is a *value expression* for `v`: it is not the slot marker and evaluating it yields `v`
    in every runtime state without changing the state (a literal, a variable, `.`, an index into
    one …).  The property speaks about the same `x` written before the pipe or inside the
    parentheses; for that to be one value, evaluating `x` must not depend on when it happens. -/
def ValueExpr (e : Expr) (v : Val) : Prop :=
  isUnderscore e = false ∧ ∀ rt, r.evalExpr env e rt = .ok v rt

theorem ValueExpr.eval_eq {e : Expr} {v : Val} (h : ValueExpr r env e v) : r.evalExpr env e = pure v :=
  funext fun rt => h.2 rt

def fill (xe : Expr) (es : List Expr) : List Expr := es.map fun e => if isUnderscore e then xe else e

def NoSlot (es : List Expr) : Prop := ∀ e ∈ es, isUnderscore e = false

/-- forget the text of a returned error (`x | f` and `f(x)` word the same failure differently:
    "piped first argument …" vs "argument …") -/
def forget {α} : Except String α → Option α
  | .ok a => some a
  | .error _ => none

def resForget {α} : Res (Except String α) → Res (Option α)
  | .ok a rt => .ok (forget a) rt
  | .err e rt => .err e rt
  | .crash m rt => .crash m rt
  | .fuel => .fuel
  | .unsupported w => .unsupported w

/-! ### reflected Go functions: `evaluateArgs` -/

theorem fill_noSlot (xe : Expr) {es : List Expr} (h : NoSlot es) : fill xe es = es :=
  (List.map_congr_left fun e he => by rw [h e he]; rfl).trans (List.map_id es)

/-- the loop reads the piped value only (not `a.exprs`, `a.hasSlot`): given the piped value, it is the
    loop over the filled list -/
theorem evalArgsLoop_fill (sig : Sig) (es0 : List Expr) (s : Bool) (a' : Args) (xe : Expr) (p : Val)
    (hx : ValueExpr r env xe p) :
    ∀ (es : List Expr) (slot : Nat) (acc : List Val),
      evalArgsLoop r env sig ⟨es0, s, some p⟩ es slot acc =
      evalArgsLoop r env sig a' (fill xe es) slot acc := by
  intro es
  induction es with
  | nil => intro slot acc; rfl
  | cons e es ih =>
    intro slot acc
    simp only [fill, List.map_cons]
    unfold evalArgsLoop
    cases sig.tyAt slot with
    | none => rfl
    | some t =>
      simp only
      have hv : (if isUnderscore e = true then (pure p : M Val) else r.evalExpr env e) =
          (if isUnderscore (if isUnderscore e = true then xe else e) = true then
              (match a'.piped with
               | some p => pure p
               | none => crash "nil pointer dereference (no piped value)")
            else r.evalExpr env (if isUnderscore e = true then xe else e)) := by
        by_cases hu : isUnderscore e = true
        · simp [hu, hx.1, hx.eval_eq]
        · simp [hu]
      rw [hv]
      congr 1
      funext v
      congr 1
      funext c
      cases c with
      | ok x => exact ih (slot + 1) (x :: acc)
      | error m => rfl

/-- **`x | f(a, _, b)` is `f(a, x, b)`** for reflected Go functions of every signature (variadic
    tails included), every argument list, every slot position (several markers included) and every
    runtime state: the evaluated, converted argument vector — or the returned error, or the panic —
    is the same. -/
theorem slot_call_eq_plain_call (sig : Sig) (es : List Expr) (xe : Expr) (p : Val)
    (hx : ValueExpr r env xe p) :
    evaluateArgs r env sig ⟨es, true, some p⟩ = evaluateArgs r env sig ⟨fill xe es, false, none⟩ := by
  unfold evaluateArgs
  simp only [Args.num, fill, List.length_map, Option.isSome_some, Bool.not_true, Bool.and_false,
    Option.isNone_some, Bool.false_eq_true, if_false, Option.isSome_none, Bool.false_and,
    Option.isNone_none, Bool.and_true]
  split
  · rfl
  · exact evalArgsLoop_fill r env sig es true _ xe p hx es 0 []

theorem convArg_cases (t : Ty) (v : Val) (w1 w2 : String) :
    (∃ x, convArg t v w1 = .ok (.ok x) ∧ convArg t v w2 = .ok (.ok x)) ∨
    (∃ m1 m2, convArg t v w1 = .ok (.error m1) ∧ convArg t v w2 = .ok (.error m2)) ∨
    (∃ f, convArg t v w1 = .error f ∧ convArg t v w2 = .error f) := by
  unfold convArg
  by_cases hv : v.isValid = true
  · simp only [hv, Bool.not_true, Bool.false_eq_true, if_false]
    cases h : convertArg t v with
    | error f => right; right; exact ⟨f, rfl, rfl⟩
    | ok o =>
      cases o with
      | none => right; left; exact ⟨_, _, rfl, rfl⟩
      | some x => left; exact ⟨x, rfl, rfl⟩
  · simp only [hv, Bool.not_false, if_true]
    right; left; exact ⟨_, _, rfl, rfl⟩

/-- **`x | f(a, b)` (and `x | f: a, b`) is `f(x, a, b)`** for reflected Go functions of every
    signature and argument list, in every runtime state: the same argument vector, or a returned
    error in both (worded differently), or the same panic. -/
theorem piped_call_eq_plain_call (sig : Sig) (es : List Expr) (xe : Expr) (p : Val)
    (hx : ValueExpr r env xe p) (hes : NoSlot es) (rt : RT) :
    resForget (evaluateArgs r env sig ⟨es, false, some p⟩ rt) =
    resForget (evaluateArgs r env sig ⟨xe :: es, false, none⟩ rt) := by
  unfold evaluateArgs
  simp only [Args.num, List.length_cons, Option.isSome_some, Bool.not_false, Bool.and_true,
    Bool.false_and, Bool.false_eq_true, if_false, if_true, Option.isSome_none, Option.isNone_none]
  split
  · rfl
  · -- counts are fine
    conv => rhs; unfold evalArgsLoop
    simp only [hx.1, Bool.false_eq_true, if_false]
    cases sig.tyAt 0 with
    | none => rfl
    | some t =>
      simp only
      rw [bind_ok (hx.2 rt)]
      rcases convArg_cases t p "piped first argument" "argument" with ⟨x, h1, h2⟩ | ⟨m1, m2, h1, h2⟩ | ⟨f, h1, h2⟩
      · rw [h1, h2]
        show resForget (evalArgsLoop r env sig ⟨es, false, some p⟩ es 1 [x] rt) = _
        rw [evalArgsLoop_fill r env sig es false ⟨xe :: es, false, none⟩ xe p hx es 1 [x], fill_noSlot xe hes]
        rfl
      · rw [h1, h2]; rfl
      · rw [h1, h2]; cases f <;> rfl

/-! ### jet.Func values: `Arguments.Get` / `NumOfArguments` -/

/-- `NumOfArguments` counts the implicit piped argument -/
theorem num_piped_eq_plain (es : List Expr) (xe : Expr) (p : Val) :
    (Args.mk es false (some p)).num = (Args.mk (xe :: es) false none).num := by
  simp [Args.num]

theorem num_slot_eq_plain (es : List Expr) (xe : Expr) (p : Val) :
    (Args.mk es true (some p)).num = (Args.mk (fill xe es) false none).num := by
  simp [Args.num, fill]

/-- `x | f(a, b)`: `Get(0)` is the piped value — what `Get(0)` is in `f(x, a, b)` -/
theorem get_piped_zero (es : List Expr) (xe : Expr) (p : Val) (hx : ValueExpr r env xe p) :
    Args.get r env ⟨es, false, some p⟩ 0 = Args.get r env ⟨xe :: es, false, none⟩ 0 := by
  simp [Args.get, Args.exprAt, hx.1, hx.eval_eq]

/-- `x | f(a, b)`: `Get(i+1)` is the `i`-th written argument — what `Get(i+1)` is in `f(x, a, b)` -/
theorem get_piped_succ (es : List Expr) (xe : Expr) (p : Val) (hes : NoSlot es) (i : Nat) :
    Args.get r env ⟨es, false, some p⟩ (i + 1) = Args.get r env ⟨xe :: es, false, none⟩ (i + 1) := by
  simp only [Args.get, Bool.not_false, if_true, Nat.add_sub_cancel, Args.exprAt, List.getElem?_cons_succ]
  have : (i + 1 == 0) = false := by simp
  simp only [this, Bool.false_eq_true, if_false]
  cases h : es[i]? with
  | none => rfl
  | some e =>
    have he : isUnderscore e = false := hes e (List.mem_of_getElem? h)
    simp [he]

/-- `x | f(a, _, b)`: `Get(i)` is what `Get(i)` is in `f(a, x, b)`, for every `i` -/
theorem get_slot_eq_plain (es : List Expr) (xe : Expr) (p : Val) (hx : ValueExpr r env xe p) (i : Nat) :
    Args.get r env ⟨es, true, some p⟩ i = Args.get r env ⟨fill xe es, false, none⟩ i := by
  simp only [Args.get, Bool.not_true, Bool.false_eq_true, if_false, Args.exprAt, fill, List.getElem?_map]
  cases h : es[i]? with
  | none => rfl
  | some e =>
    by_cases hu : isUnderscore e = true
    · simp [hu, hx.1, hx.eval_eq]
    · simp [hu]

/-- one stage of a pipeline: refuse to run after a SafeWriter stage, otherwise evaluate the
    command once with the value piped in -/
def stage (c : Cmd) (acc : Val × Bool) : M (Val × Bool) :=
  if acc.2 then errAt c.loc "unexpected command, writer command should be the last command"
  else evalCommandPipe r env c acc.1

/-- **A pipeline is the left-to-right composition of its stages, each evaluated exactly once.** -/
theorem pipeline_is_fold_of_stages (cs : List Cmd) :
    ∀ acc, pipelineLoop r env acc cs = cs.foldlM (fun a c => stage r env c a) acc := by
  induction cs with
  | nil => intro acc; rfl
  | cons c cs ih =>
    intro acc
    rw [List.foldlM_cons]
    unfold pipelineLoop stage
    by_cases h : acc.2 = true
    · simp only [h, if_true]
      funext rt
      rfl
    · simp only [h, Bool.false_eq_true, if_false]
      congr 1
      funext nxt
      exact ih nxt

theorem evalPipeline_eq (loc : Loc) (c0 : Cmd) (rest : List Cmd) :
    evalPipeline r env ⟨loc, c0 :: rest⟩ =
      (evalCommand r env c0 >>= fun first => rest.foldlM (fun a c => stage r env c a) first) := by
  unfold evalPipeline
  simp only
  congr 1
  funext first
  exact pipeline_is_fold_of_stages r env rest first

/-- **A SafeWriter stage may only come last**: any command after it is an error carrying the
    file and line of that command, and the command is not evaluated. -/
theorem safewriter_must_be_last (v : Val) (c : Cmd) (cs : List Cmd) (rt : RT) :
    ∃ e, pipelineLoop r env (v, true) (c :: cs) rt = .err e rt ∧ e.located = true ∧ e.loc = c.loc := by
  unfold pipelineLoop
  exact ⟨_, rfl, rfl, rfl⟩

/-- a SafeWriter stage writes the piped value through the writer and yields no value -/
theorem safewriter_stage (c : Cmd) (sw : String) (v : Val) (rt rt1 : RT)
    (hb : r.evalExpr env c.base rt = .ok (.swriter sw) rt1) :
    evalCommandPipe r env c v rt =
      (evalSafeWriter r env sw (some v) c.args >>= fun _ => pure (Val.invalid, true)) rt1 := by
  unfold evalCommandPipe
  rw [bind_ok hb]
  simp [Val.isValid]

/-- what docs/builtins.md documents each built-in to expose -/
def documented : List (String × String) :=
  [("lower", "strings.ToLower"), ("upper", "strings.ToUpper"), ("hasPrefix", "strings.HasPrefix"),
   ("hasSuffix", "strings.HasSuffix"), ("repeat", "strings.Repeat"), ("replace", "strings.Replace"),
   ("split", "strings.Split"), ("trimSpace", "strings.TrimSpace"), ("html", "html.EscapeString"),
   ("url", "url.QueryEscape"), ("json", "json.Marshal"), ("writeJson", "jsonRenderer"),
   ("map", "newMap"), ("slice", "newSlice"), ("array", "newSlice"),
   ("safeHtml", "SafeWriter(template.HTMLEscape)"), ("safeJs", "SafeWriter(template.JSEscape)"),
   ("raw", "SafeWriter(unsafePrinter)"), ("unsafe", "SafeWriter(unsafePrinter)"),
   ("len", "jet.Func"), ("isset", "jet.Func"), ("ints", "jet.Func"), ("exec", "jet.Func"),
   ("includeIfExists", "jet.Func"), ("dump", "jet.Func")]

def stdImports : List (String × String) :=
  [("strings", "strings"), ("html", "html"), ("url", "net/url"), ("json", "encoding/json"),
   ("template", "text/template")]

/-- default.go, as regenerated into Facts, binds every documented built-in name to the Go function it is
    documented to expose (and to nothing else: the name occurs once), with the package names
    referring to the standard library -/
theorem builtins_expose_documented_functions :
    Facts.builtinShapeOk = true ∧
    (∀ d ∈ documented, d ∈ Facts.builtinTable ∧ (Facts.builtinTable.filter (fun e => e.1 == d.1)).length = 1) ∧
    (∀ i ∈ stdImports, i ∈ Facts.builtinImports) := by decide +kernel

/-- non-vacuity: literals and `true`/`false` are value expressions at every positive fuel -/
example (env : Env) (n : Nat) (l : Loc) (s : Bytes) : ValueExpr (recAt (n + 1)) env (.strLit l s) (.str s) :=
  ⟨rfl, fun _ => rfl⟩
example (env : Env) (n : Nat) (l : Loc) (t : Bool) : ValueExpr (recAt (n + 1)) env (.boolLit l t) (.bool t) :=
  ⟨rfl, fun _ => rfl⟩

end JetVerif.Props.C14
