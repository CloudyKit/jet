/-
  C18 — the Go-side Runtime and Arguments API mirrors template semantics.
  Model: `letVar`, `setValue`, `letGlobal`, `resolve`, `yieldBlockApi`, `applyApiFunc` (the harness's
  jet.Func wrappers around Runtime.Let/Set/SetOrLet/LetGlobal/Resolve/Context/YieldBlock) and
  `Args.get` / `Args.num` / `Args.isSet` in JetVerif/Model/Eval.lean.
-/
import JetVerif.Props.C14
import JetVerif.Lemmas.EvalGood

namespace JetVerif.Props.C18
open JetVerif JetVerif.Eval JetVerif.Props.C14

variable (r : Rec) (env : Env)

/-- the arguments of a plain call `f(nameExpr, valueExpr)` -/
def call2 (ne ve : Expr) : Args := ⟨[ne, ve], false, none⟩

theorem get0 {ne ve : Expr} {n : Bytes} (hn : ValueExpr r env ne (.str n)) :
    (call2 ne ve).get r env 0 = pure (.str n) := by
  simp [call2, Args.get, Args.exprAt, hn.1, hn.eval_eq]

theorem get1 {ne ve : Expr} {v : Val} (hv : ValueExpr r env ve v) :
    (call2 ne ve).get r env 1 = pure v := by
  simp [call2, Args.get, Args.exprAt, hv.1, hv.eval_eq]

theorem pure_bind_M {α β} (a : α) (f : α → M β) : ((pure a : M α) >>= f) = f a := Eval.pure_bind a f

/-- **Let is `:=`.**  `Runtime.Let(name, v)` called from a function has exactly the effect of the
    assignment `name := v` executed at the call site: the variable is written into the innermost
    open scope (`letVar`), shadowing outer ones. -/
theorem let_is_colon_equals (ne ve : Expr) (n : Bytes) (v : Val) (loc : Loc)
    (hn : ValueExpr r env ne (.str n)) (hv : ValueExpr r env ve v) :
    applyApiFunc r env "apiLet" (call2 ne ve) =
      (assignOne r env true (.ident loc n) (viaInterface v) >>= fun _ => pure Val.invalid) := by
  have h2 : (call2 ne ve).num = 2 := rfl
  unfold applyApiFunc
  simp only [h2, get0 r env hn, get1 r env hv, pure_bind_M]
  simp [apiName, assignOne, isUnderscore, leftName]
  rfl

/-- **Set is `=`.**  `Runtime.Set(name, v)` rebinds the nearest enclosing declaration of `name`
    exactly as the assignment `name = v` does, and fails — leaving every scope untouched — exactly
    when that assignment fails, i.e. when no scope of the chain declares `name`.  (The third disjunct, a
    crash of `setValue`, never holds: `C12S.setValue_never_crashes`.) -/
theorem set_is_equals (ne ve : Expr) (n : Bytes) (v : Val) (loc : Loc) (rt : RT)
    (hn : ValueExpr r env ne (.str n)) (hv : ValueExpr r env ve v) :
    (∃ rt', setValue n (viaInterface v) rt = .ok true rt' ∧
        applyApiFunc r env "apiSet" (call2 ne ve) rt = .ok .invalid rt' ∧
        executeSet r env (.ident loc n) (viaInterface v) rt = .ok () rt') ∨
    (lookupChain rt n rt.scope = none ∧
        (∃ e, applyApiFunc r env "apiSet" (call2 ne ve) rt = .err e rt) ∧
        (∃ e, executeSet r env (.ident loc n) (viaInterface v) rt = .err e rt)) ∨
    (∃ s, setValue n (viaInterface v) rt = .crash s rt) := by
  have h2 : (call2 ne ve).num = 2 := rfl
  have hA : applyApiFunc r env "apiSet" (call2 ne ve) =
      (setValue n (viaInterface v) >>= fun ok =>
        if ok then pure Val.invalid else errPlain "could not assign: variable is uninitialised") := by
    unfold applyApiFunc
    simp only [h2, get0 r env hn, get1 r env hv, pure_bind_M]
    simp [apiName]
    rfl
  have hE : executeSet r env (.ident loc n) (viaInterface v) =
      (setValue n (viaInterface v) >>= fun ok =>
        if ok then pure () else errAt loc "could not assign because variable is uninitialised") := rfl
  rw [hA, hE]
  rcases setValue_cases n (viaInterface v) rt with ⟨hl, h⟩ | ⟨_, _, _, _, _, _, _, h⟩
  · right; left
    refine ⟨hl, ?_, ?_⟩
    · rw [bind_ok h]; exact ⟨_, rfl⟩
    · rw [bind_ok h]; exact ⟨_, rfl⟩
  · left
    refine ⟨_, h, ?_, ?_⟩
    · rw [bind_ok h]; rfl
    · rw [bind_ok h]; rfl

/-- **SetOrLet picks between them by the scope chain only**: if some open scope declares `name` it
    acts as Set, otherwise as Let — regardless of globals and default variables of that name, which
    Set cannot rebind. -/
theorem setOrLet_spec (ne ve : Expr) (n : Bytes) (v : Val) (rt : RT)
    (hn : ValueExpr r env ne (.str n)) (hv : ValueExpr r env ve v) :
    applyApiFunc r env "apiSetOrLet" (call2 ne ve) rt =
      (match lookupChain rt n rt.scope with
       | some _ => (setValue n (viaInterface v) >>= fun _ => pure Val.invalid) rt
       | none => (letVar n (viaInterface v) >>= fun _ => pure Val.invalid) rt) := by
  have h2 : (call2 ne ve).num = 2 := rfl
  have hA : applyApiFunc r env "apiSetOrLet" (call2 ne ve) =
      (setValue n (viaInterface v) >>= fun ok =>
        if ok then pure Val.invalid else (letVar n (viaInterface v) >>= fun _ => pure Val.invalid)) := by
    unfold applyApiFunc
    simp only [h2, get0 r env hn, get1 r env hv, pure_bind_M]
    simp [apiName]
    rfl
  rw [hA]
  rcases setValue_cases n (viaInterface v) rt with ⟨hl, h⟩ | ⟨_, _, _, _, hl, _, _, h⟩
  · rw [hl, bind_ok h]; rfl
  · rw [hl, bind_ok h]; simp only; rw [bind_ok h]; rfl

/-- the globals and defaults of the environment play no role in SetOrLet -/
theorem setOrLet_ignores_globals (env' : Env) (ne ve : Expr) (n : Bytes) (v : Val) (rt : RT)
    (hn : ValueExpr r env ne (.str n)) (hv : ValueExpr r env ve v)
    (hn' : ValueExpr r env' ne (.str n)) (hv' : ValueExpr r env' ve v) :
    applyApiFunc r env "apiSetOrLet" (call2 ne ve) rt = applyApiFunc r env' "apiSetOrLet" (call2 ne ve) rt := by
  rw [setOrLet_spec r env ne ve n v rt hn hv, setOrLet_spec r env' ne ve n v rt hn' hv']

/-- **Resolve is identifier lookup**: what `Runtime.Resolve(name)` returns is what evaluating the
    identifier `name` yields whenever that succeeds (and an invalid value when the identifier is
    unknown, where the template expression is an error). -/
theorem resolve_is_identifier_lookup (ne : Expr) (n : Bytes) (rt : RT)
    (hn : ValueExpr r env ne (.str n)) :
    applyApiFunc r env "apiResolve" ⟨[ne], false, none⟩ rt =
      (match resolve env n rt with
       | .ok (some v) rt' => .ok v rt'
       | .ok none rt' => .ok .invalid rt'
       | .err e rt' => .err e rt'
       | .crash s rt' => .crash s rt'
       | .fuel => .fuel
       | .unsupported w => .unsupported w) := by
  have h1 : (Args.mk [ne] false none).num = 1 := rfl
  have hg : (Args.mk [ne] false none).get r env 0 = pure (.str n) := by
    simp [Args.get, Args.exprAt, hn.1, hn.eval_eq]
  have hA : applyApiFunc r env "apiResolve" ⟨[ne], false, none⟩ =
      (resolve env n >>= fun o => match o with
        | some v => pure v
        | none => pure Val.invalid) := by
    unfold applyApiFunc
    simp only [h1, hg, pure_bind_M]
    simp [apiName]
    rfl
  rw [hA, bind_def]
  cases resolve env n rt with
  | ok o rt' => cases o <;> rfl
  | _ => rfl

/-- **Context is `.`** -/
theorem context_is_dot (rt : RT) :
    applyApiFunc r env "apiContext" ⟨[], false, none⟩ rt = .ok rt.ctx rt ∧
    resolve env [46] rt = .ok (some rt.ctx) rt := by
  constructor
  · unfold applyApiFunc; simp [Args.num]; rfl
  · simp [resolve]

/-- **LetGlobal binds in the outermost template scope**: when every scope of the chain has a
    variable map (as every scope created during an execution does), the scope written is the last
    one of the chain — the one `Execute` started with — whatever the depth of the call site. -/
theorem letGlobal_targets_outermost (rt : RT) :
    ∀ (chain : List Nat) (hne : chain ≠ []),
      (∀ id ∈ chain, ∃ f, frameAt rt id = some f ∧ f.vars.isSome = true) →
      letGlobalTarget rt chain = some (chain.getLast hne) := by
  intro chain
  induction chain with
  | nil => intro h; exact absurd rfl h
  | cons id rest ih =>
    intro hne hall
    cases rest with
    | nil => rfl
    | cons p rest' =>
      obtain ⟨f, hf, hv⟩ := hall p (by simp)
      have := ih (by simp) (fun x hx => hall x (by simp [hx]))
      simp only [letGlobalTarget, hf, hv, if_true]
      rw [this]
      simp [List.getLast_cons]

/-- **YieldBlock(name, ctx) is `{{yield name() ctx}}`** for a block without parameters: the block's
    body is executed exactly once, with `ctx` as '.', and '.' is put back afterwards.  Stated for
    every well-formed runtime and every body, via the restore invariant of the evaluator. -/
theorem yieldBlock_is_yield (fuel : Nat) (name : Bytes) (blk : BlockN) (ce : Expr) (c : Val) (loc : Loc)
    (rt : RT) (hwf : WF rt) (hb : getBlockChain rt name rt.scope = some blk) (hp : blk.params = [])
    (hc : ValueExpr (recAt fuel) env ce c) (hcv : c.isValid = true) :
    execYield (recAt fuel) env loc name (some []) (some ce) none false rt =
      yieldBlockApi (recAt fuel) env name c rt := by
  unfold execYield yieldBlockApi
  simp only [Bool.false_eq_true, if_false, getBlock, bind_def, hb, hcv, if_true]
  unfold executeYieldBlock
  simp only [hp, List.length_nil, Nat.lt_irrefl, decide_false, Bool.or_self, Bool.false_eq_true, if_false]
  unfold yieldBody
  simp only [getRT, bind_def, hc.2 rt, withContentND, withCtxND]
  cases hr : (recAt fuel).execList env blk.body { rt with ctx := c } with
  | ok a rt' =>
    have hcont : rt'.content = rt.content :=
      (((recGood_recAt fuel).execList env blk.body).ok (rt := { rt with ctx := c }) hwf hr).2.content
    simp [pure, ← hcont]
  | err e rt' => simp
  | crash s rt' => simp
  | fuel => simp
  | unsupported w => simp

/-- after a successful `YieldBlock` with a context the call site's '.', scope chain and block
    content are what they were -/
theorem yieldBlock_restores (fuel : Nat) (name : Bytes) (c : Val) (rt rt' : RT) (hwf : WF rt)
    (h : yieldBlockApi (recAt fuel) env name c rt = .ok () rt') :
    rt'.ctx = rt.ctx ∧ rt'.scope = rt.scope ∧ rt'.content = rt.content :=
  let ⟨_, r⟩ := (walk_yieldBlockApi Good.walk (recGood_recAt fuel).ok env name c).ok hwf h
  ⟨r.ctx, r.scope, r.content⟩

/-- **Arguments.Get / NumOfArguments / IsSet present piped and slot-placed values where a reflected
    function receives them**: the theorems of C14 (`get_piped_zero`, `get_piped_succ`,
    `get_slot_eq_plain`, `num_piped_eq_plain`, `num_slot_eq_plain`) state this for Get and
    NumOfArguments; here the same for IsSet. -/
theorem isSet_piped_zero (es : List Expr) (p : Val) :
    Args.isSet r env ⟨es, false, some p⟩ 0 = pure (Val.notNil p) := rfl

theorem isSet_piped_succ (es : List Expr) (xe : Expr) (p : Val) (hes : NoSlot es) (i : Nat) :
    Args.isSet r env ⟨es, false, some p⟩ (i + 1) = Args.isSet r env ⟨xe :: es, false, none⟩ (i + 1) := by
  simp only [Args.isSet, Bool.not_false, if_true, Nat.add_sub_cancel, Args.isSetAt, List.getElem?_cons_succ]
  have : (i + 1 == 0) = false := by simp
  simp only [this, Bool.false_eq_true, if_false]
  cases h : es[i]? with
  | none => rfl
  | some e =>
    have he : isUnderscore e = false := hes e (List.mem_of_getElem? h)
    simp [he]

/-- the slot marker is judged by the piped value -/
theorem isSet_slot (es : List Expr) (p : Val) (i : Nat) (e : Expr) (he : es[i]? = some e)
    (hu : isUnderscore e = true) :
    Args.isSet r env ⟨es, true, some p⟩ i = pure (Val.notNil p) := by
  simp [Args.isSet, Args.isSetAt, he, hu]

end JetVerif.Props.C18
