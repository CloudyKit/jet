/-
  C03 — literal text is copied verbatim; only trim markers and comments remove bytes.
  Model: JetVerif/Model/Lex.lean (the lexer with its ghost event log); global invariant in
  JetVerif/Lemmas/LexInv.lean; text nodes are written raw by the evaluator (Props/C01
  `literal_text_is_raw`).
-/
import JetVerif.Lemmas.LexInv

namespace JetVerif.Props.C03
open JetVerif JetVerif.Lex JetVerif.Utf8

/-- offset reached after the events `l` (oldest first), starting from `frm` -/
def fwdEnd : Int → List Event → Int
  | frm, [] => frm
  | _, .emit _ _ b _ :: rest => fwdEnd b rest
  | _, .ignore _ _ b :: rest => fwdEnd b rest
  | frm, .err _ _ :: rest => fwdEnd frm rest

/-- the event log read oldest-first: starting at offset `frm`, every emit / ignore event begins
    where the previous one ended, and an emitted token's value is the source slice it covers -/
def Tiles (input : Bytes) : Int → List Event → Prop
  | _, [] => True
  | frm, .emit _ a b v :: rest => a = frm ∧ slice input a b = some v ∧ Tiles input b rest
  | frm, .ignore _ a b :: rest => a = frm ∧ Tiles input b rest
  | frm, .err _ _ :: rest => Tiles input frm rest

theorem fwdEnd_append (l1 l2 : List Event) : ∀ frm, fwdEnd frm (l1 ++ l2) = fwdEnd (fwdEnd frm l1) l2 := by
  induction l1 with
  | nil => intro frm; rfl
  | cons e rest ih => intro frm; cases e <;> simp [fwdEnd, ih]

theorem tiles_append (input : Bytes) (l1 l2 : List Event) :
    ∀ frm, Tiles input frm (l1 ++ l2) ↔ Tiles input frm l1 ∧ Tiles input (fwdEnd frm l1) l2 := by
  induction l1 with
  | nil => intro frm; simp [Tiles, fwdEnd]
  | cons e rest ih =>
    intro frm
    cases e <;> simp [Tiles, fwdEnd, ih, and_assoc]

theorem evEnd_eq_fwdEnd (l : List Event) : evEnd l = fwdEnd 0 l.reverse := by
  induction l with
  | nil => rfl
  | cons e rest ih =>
    simp only [List.reverse_cons, fwdEnd_append]
    cases e <;> simp [evEnd, fwdEnd, ih]

theorem chain_iff_tiles (input : Bytes) (l : List Event) : Chain input l ↔ Tiles input 0 l.reverse := by
  induction l with
  | nil => simp [Chain, Tiles]
  | cons e rest ih =>
    simp only [List.reverse_cons, tiles_append, ← evEnd_eq_fwdEnd]
    cases e with
    | emit t a b v =>
      simp only [Chain, Tiles, ih, and_true]
      exact and_rotate.symm
    | ignore k a b =>
      simp only [Chain, Tiles, ih, and_true]
      exact and_comm
    | err a m => simp only [Chain, Tiles, ih, and_true]

/-- the events of a run tile the source, whatever the delimiter record -/
theorem lexRun_tiles (d : Delims) (input : Bytes) : Tiles input 0 (lexRun d input).events := by
  have h := lexRun_chain d input
  rwa [chain_iff_tiles, List.reverse_reverse] at h

/-- **Nothing is added, reordered or changed.**  For every source and every configuration of
    action and comment delimiters, however the scan ends (end of input, error item, crash): read in
    order, the lexer's emit and ignore events partition a prefix of the source into adjacent ranges
    starting at offset 0, and the value of every token handed to the parser is exactly the source
    bytes of its range.  Whatever source byte is not inside a token value lies in a range dropped
    by one of the five `l.ignore()` sites (trim-left run, `- ` marker, comment, ` -` marker,
    trim-right run). -/
theorem events_tile_the_source (l r lc rc input : Bytes) :
    Tiles input 0 (lexRun (mkDelims l r lc rc) input).events := lexRun_tiles _ input

/-- a token value never contains bytes that are not in the source at its position -/
theorem token_values_are_source_slices (d : Delims) (input : Bytes) (t : Tok) (a b : Int) (v : Bytes)
    (h : Event.emit t a b v ∈ (lexRun d input).events) :
    0 ≤ a ∧ a ≤ b ∧ b ≤ input.length ∧ v = (input.drop a.toNat).take (b - a).toNat := by
  have hc := lexRun_chain d input
  have hm : Event.emit t a b v ∈ (lexRun d input).events.reverse := List.mem_reverse.mpr h
  generalize (lexRun d input).events.reverse = L at hc hm
  induction L with
  | nil => cases hm
  | cons e rest ih =>
    cases hm with
    | head => exact slice_some hc.2.1
    | tail _ hr =>
      cases e with
      | emit _ _ _ _ => exact ih hc.2.2 hr
      | ignore _ _ _ => exact ih hc.2 hr
      | err _ _ => exact ih hc hr

/-! ### the trim runs are exactly the whitespace runs -/

theorem isSpaceByte_iff (c : UInt8) : isSpaceByte c = true ↔ (c = 32 ∨ c = 9 ∨ c = 13 ∨ c = 10) := by
  simp [isSpaceByte, or_assoc]

/-- **A right trim marker removes exactly the run of spaces, tabs, CRs and LFs after it**: the
    text after the delimiter splits into a whitespace-only run of length `leftTrimLength` and a
    remainder that is empty or starts with a non-whitespace byte. -/
theorem leftTrimLength_spec (s : Bytes) :
    let n := leftTrimLength s
    (∀ c ∈ s.take n, isSpaceByte c = true) ∧
    (∀ c, (s.drop n).head? = some c → isSpaceByte c = false) ∧ n ≤ s.length := by
  refine ⟨?_, fun c hc => ?_, leftTrimLength_le s⟩
  · rw [take_leftTrimLength]; exact allSpace_takeWhile s
  · have e : s.drop (leftTrimLength s) = s.dropWhile isSpaceByte := by
      have := List.drop_left (l₁ := s.takeWhile isSpaceByte) (l₂ := s.dropWhile isSpaceByte)
      rwa [List.takeWhile_append_dropWhile] at this
    have h := List.head?_dropWhile_not isSpaceByte s
    rw [← e, hc] at h
    exact h

/-- **A left trim marker removes exactly the run of spaces, tabs, CRs and LFs before it**: the
    pending text splits into a remainder that is empty or ends with a non-whitespace byte and a
    whitespace-only run of length `rightTrimLength`. -/
theorem rightTrimLength_spec (s : Bytes) :
    let n := rightTrimLength s
    (∀ c ∈ s.reverse.take n, isSpaceByte c = true) ∧
    (∀ c, (s.reverse.drop n).head? = some c → isSpaceByte c = false) ∧ n ≤ s.length := by
  intro n
  have h := leftTrimLength_spec s.reverse
  simp only [leftTrimLength, List.length_reverse] at h
  exact h

end JetVerif.Props.C03
