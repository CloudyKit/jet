/-
  C15 — Template names are canonicalised: loaders only ever see clean absolute paths.

  Property theorems only (helper lemmas live in JetVerif/Lemmas/Path.lean).
  Model: JetVerif/Model/Path.lean (`resolveSibling` = set.go getSiblingTemplate's path
  computation, `parseName` = Set.Parse's, `normalize` = InMemLoader.normalize).
-/
import JetVerif.Lemmas.Path

namespace JetVerif.Props.C15
open JetVerif.Path

/-- `path.Clean` of an absolute path is canonical: absolute, single slashes, no empty, `.`
    or `..` segment. -/
theorem clean_abs_is_canonical (p : Bytes) (h : isAbs p = true) : IsCanon (clean p) :=
  clean_abs_canon p h

/-- a canonical path is a fixed point of `path.Clean` (so cleaning is idempotent) -/
theorem canonical_is_fixed_point (p : Bytes) (h : IsCanon p) : clean p = p :=
  clean_of_canon h

/-- Every name, however spelt, referred to from a template whose own name is absolute,
    resolves to a canonical path (extends / import / include: `sibling` is the referring
    template's name; GetTemplate / exec / includeIfExists: `sibling = "/"`). -/
theorem resolve_is_canonical (name sibling : Bytes) (hs : isAbs sibling = true) :
    IsCanon (resolveSibling name sibling) := by
  unfold resolveSibling
  split
  · rename_i h; exact clean_abs_canon name h
  · exact join_abs_canon _ _ (dir_abs_canon sibling hs).isAbs

/-- A name that is already canonical is requested under exactly that path, whatever the
    referring template: the same template is always requested under the same path. -/
theorem canonical_name_resolves_to_itself (name sibling : Bytes) (h : IsCanon name) :
    resolveSibling name sibling = name := by
  unfold resolveSibling
  simp [h.isAbs, clean_of_canon h]

/-- Resolution is idempotent: resolving an already resolved name changes nothing. -/
theorem resolve_idempotent (name s₁ s₂ : Bytes) (h₁ : isAbs s₁ = true) :
    resolveSibling (resolveSibling name s₁) s₂ = resolveSibling name s₁ :=
  canonical_name_resolves_to_itself _ _ (resolve_is_canonical name s₁ h₁)

/-- `Set.Parse` names its template canonically (or rejects the name). -/
theorem parse_name_is_canonical (name p : Bytes) (h : parseName name = some p) : IsCanon p := by
  unfold parseName at h
  simp only at h
  split at h
  · cases h
  · cases h; exact join_root_canon name

/-- `InMemLoader.normalize` maps every spelling to a canonical key. -/
theorem normalize_is_canonical (p : Bytes) : IsCanon (normalize p) := join_root_canon p

/-- No spelling resolves above the root: a canonical path has no `..` (nor `.` nor empty)
    segment after its leading slash. -/
theorem canonical_has_no_dotdot (p : Bytes) (h : IsCanon p) :
    ∃ segs, p = renderAbs segs ∧ ∀ s ∈ segs, s ≠ dotdotSeg ∧ s ≠ dotSeg ∧ s ≠ [] ∧ slash ∉ s := by
  obtain ⟨segs, hg, rfl⟩ := h
  exact ⟨segs, rfl, fun s hs => ⟨(hg s hs).2.2.1, (hg s hs).2.1, (hg s hs).1, (hg s hs).2.2.2⟩⟩

/-! Non-vacuity: concrete spellings (the inputs of defect D28) -/
def c (l : List Char) : Bytes := l.map (fun ch => ch.toNat.toUInt8)

-- "/a/../../x.jet" from "/"  ↦  "/x.jet"
example : resolveSibling (c ['/', 'a', '/', '.', '.', '/', '.', '.', '/', 'x', '.', 'j', 'e', 't']) (c ['/']) = (c ['/', 'x', '.', 'j', 'e', 't']) := by decide +kernel
-- "../../../etc/hostname" from "/sub/t.jet"  ↦  "/etc/hostname"
example : resolveSibling (c ['.', '.', '/', '.', '.', '/', '.', '.', '/', 'e', 't', 'c', '/', 'h', 'o', 's', 't', 'n', 'a', 'm', 'e']) (c ['/', 's', 'u', 'b', '/', 't', '.', 'j', 'e', 't']) = (c ['/', 'e', 't', 'c', '/', 'h', 'o', 's', 't', 'n', 'a', 'm', 'e']) := by decide +kernel
-- "./b//c/" from "/a/t.jet"  ↦  "/a/b/c"
example : resolveSibling (c ['.', '/', 'b', '/', '/', 'c', '/']) (c ['/', 'a', '/', 't', '.', 'j', 'e', 't']) = (c ['/', 'a', '/', 'b', '/', 'c']) := by decide +kernel
example : parseName (c ['a', '/', '.']) = none := by decide
example : parseName (c ['x', '/', '.', '.', '/', '.', '.']) = some (c ['/']) := by decide +kernel
example : isAbs (c ['/', 's', 'u', 'b', '/', 't', '.', 'j', 'e', 't']) = true := by decide

end JetVerif.Props.C15
