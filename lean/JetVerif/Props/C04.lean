/-
  C04 — expressions follow the documented C-like precedence, associativity and typing.
  Model: the lexer's sign-vs-operator rule (`signArm`, lists regenerated from lex.go into
  Facts.minusExcl / Facts.plusExcl) and the evaluator's expression arms (`evalExprF`,
  `evalAdditive`, `evalMultiplicative`, `evalNumericComparative`, `checkEquality`) in
  JetVerif/Model/Eval.lean.  The precedence ladder of the recursive-descent parser is Props/C04P.lean.
-/
import JetVerif.Generated.Facts
import JetVerif.Lemmas.EvalEqns
import JetVerif.Lemmas.LexSafe

namespace JetVerif.Props.C04
open JetVerif JetVerif.Eval

/-! ### `a-1`, `f(x)-1`, `s[0]-1`, `(a)-1` : a sign after an operand is an operator -/

def operandEnds : List String :=
  ["itemIdentifier", "itemField", "itemNumber", "itemString", "itemRawString", "itemCharConstant",
   "itemBool", "itemRightParen", "itemRightBrackets"]

/-- lex.go as regenerated into Facts: after every token kind an operand can end with, `-` and `+` directly
    followed by a digit are emitted as operators, not folded into a signed number -/
theorem sign_after_operand_is_operator :
    (∀ k ∈ operandEnds, k ∈ Facts.minusExcl ∧ k ∈ Facts.plusExcl) ∧
    Facts.minusTok = "itemMinus" ∧ Facts.plusTok = "itemAdd" := by decide +kernel

/-- the rule itself: with a digit next, `signArm` starts a number exactly when the previous token's
    kind is not in the exclusion list, and emits the operator token otherwise -/
theorem signArm_rule (excl : List String) (opTok : Tok) (s : Lex.St) (r : Option Nat) (s1 : Lex.St)
    (hp : Lex.peek s = .ok r s1) (hex : excl.contains s1.lastType.name = true) :
    Lex.signArm excl opTok s = (Lex.emit opTok >>= fun _ => pure (some Lex.StateId.insideAction)) s1 := by
  unfold Lex.signArm
  rw [Lex.lbind_apply, hp]
  simp only [Lex.get, Lex.lbind_apply, hex, Bool.not_true, Bool.and_false, Bool.false_eq_true, if_false]

/-! ### typing of the operators (on already evaluated operands) -/

variable (loc lloc rloc : Loc)

/-- **two Go integers combine integrally**; `/` truncates toward zero, `%` has the dividend's sign,
    a zero divisor is an error -/
theorem int_arithmetic (a c : Int) :
    evalAdditive loc lloc rloc true (some (.int a)) (.int c) = .ok (.int (Val.wrapI (a + c))) ∧
    evalAdditive loc lloc rloc false (some (.int a)) (.int c) = .ok (.int (Val.wrapI (a - c))) ∧
    evalMultiplicative lloc rloc Tok.mul (.int a) (.int c) = .ok (.int (Val.wrapI (a * c))) ∧
    (c ≠ 0 → evalMultiplicative lloc rloc Tok.div (.int a) (.int c) = .ok (.int (Val.wrapI (Int.tdiv a c)))) ∧
    (c ≠ 0 → evalMultiplicative lloc rloc Tok.mod (.int a) (.int c) = .ok (.int (Int.tmod a c))) ∧
    (∃ e, evalMultiplicative lloc rloc Tok.div (.int a) (.int 0) = .error (.err e)) ∧
    (∃ e, evalMultiplicative lloc rloc Tok.mod (.int a) (.int 0) = .error (.err e)) := by
  refine ⟨rfl, rfl, rfl, ?_, ?_, ⟨_, rfl⟩, ⟨_, rfl⟩⟩
  · intro hc
    simp [evalMultiplicative, isFloatV, toInt, goDiv, hc, bind, Except.bind, pure, Except.pure]
  · intro hc
    simp [evalMultiplicative, toInt, goMod, hc, bind, Except.bind, pure, Except.pure]

/-- **any floating-point operand makes the operation floating-point** -/
theorem float_promotion (a : Int) (f g : UInt64) :
    evalAdditive loc lloc rloc true (some (.int a)) (.float f) = .ok (.float (fop (· + ·) (intToFloat a) f)) ∧
    evalAdditive loc lloc rloc true (some (.float f)) (.int a) = .ok (.float (fop (· + ·) f (intToFloat a))) ∧
    evalAdditive loc lloc rloc false (some (.float f)) (.float g) = .ok (.float (fop (· - ·) f g)) ∧
    evalMultiplicative lloc rloc Tok.mul (.int a) (.float f) = .ok (.float (fop (· * ·) (intToFloat a) f)) ∧
    evalMultiplicative lloc rloc Tok.div (.int a) (.float f) = .ok (.float (fop (· / ·) (intToFloat a) f)) ∧
    evalMultiplicative lloc rloc Tok.div (.float f) (.int a) = .ok (.float (fop (· / ·) f (intToFloat a))) := by
  refine ⟨rfl, rfl, rfl, ?_, ?_, ?_⟩ <;>
    simp [evalMultiplicative, isFloatV, toFloat, bind, Except.bind, pure, Except.pure] <;> decide

/-- **every numeric literal is a float** (a literal with a fraction, exponent or no fraction alike:
    the parser marks all of them IsFloat; an integer-valued literal additionally IsInt) -/
theorem literal_with_float_flag_is_float (r : Rec) (env : Env) (l : Loc) (isInt isUint : Bool) (i : Int) (u : Nat)
    (f : UInt64) (rt : RT) :
    evalExprF r env (.numLit l isInt isUint true i u f) rt = .ok (.float f) rt := by
  simp [evalExprF]
  rfl

/-- **`+` concatenates when its left operand is a string** -/
theorem string_concatenation (a c : Bytes) (i : Int) :
    evalAdditive loc lloc rloc true (some (.str a)) (.str c) = .ok (.str (a ++ c)) ∧
    evalAdditive loc lloc rloc true (some (.str a)) (.int i) = .ok (.str (a ++ intToDec i)) ∧
    (∃ e, evalAdditive loc lloc rloc false (some (.str a)) (.str c) = .error (.err e)) := by
  refine ⟨?_, ?_, ⟨_, rfl⟩⟩ <;>
    simp [evalAdditive, Val.isValid, isFloatV, liftOpt, fmtComposite, fmtScalar, bind, Except.bind, pure, Except.pure]

/-- **relational operators always yield true or false**, comparing integrally between integers
    and in floating point as soon as one operand is a float -/
theorem relational_on_numbers (op : Tok) (a c : Int) (f g : UInt64) :
    evalNumericComparative lloc op (.int a) (.int c) = .ok (.bool (icmp op a c)) ∧
    evalNumericComparative lloc op (.int a) (.float f) = .ok (.bool (fcmp op (intToFloat a) f)) ∧
    evalNumericComparative lloc op (.float f) (.int a) = .ok (.bool (fcmp op f (intToFloat a))) ∧
    evalNumericComparative lloc op (.float f) (.float g) = .ok (.bool (fcmp op f g)) := by
  refine ⟨rfl, ?_, rfl, rfl⟩
  simp [evalNumericComparative, isFloatV]
  rfl

/-- **two Go integers are equal exactly when they are the same integer** — compared integrally,
    never through floating point (which would identify neighbours beyond 2^53) -/
theorem int_equality_is_integral (a c : Int) :
    checkEquality (.int a) (.int c) = .ok (a == c) := by
  simp [checkEquality, Val.indirectInterface, Val.isValid, Val.kind, scalarKindConvertible, toInt,
    bind, Except.bind, pure, Except.pure]

/-- an integer and a float are compared numerically (the integer is promoted) -/
theorem int_float_equality (a : Int) (f : UInt64) :
    checkEquality (.int a) (.float f) = .ok ((intToFloat a) == f || (f64 (intToFloat a) == f64 f)) := by
  simp [checkEquality, Val.indirectInterface, Val.isValid, Val.kind, scalarKindConvertible, pure, Except.pure]

/-! ### `&&`, `||`, `!`, `?:` : booleans out, and only the operands that are needed -/

variable (r : Rec) (env : Env)

/-- **`&&` does not evaluate its right operand when the left one is false**, and yields `false` -/
theorem and_short_circuits (l rgt : Expr) (lv : Val) (rt rt1 : RT)
    (hl : r.evalExpr env l rt = .ok lv rt1) (hf : Val.isTrue lv = some false) :
    evalExprF r env (.logic loc true l rgt) rt = .ok (.bool false) rt1 := by
  simp only [evalExprF]
  rw [bind_ok hl]
  simp [hf, liftOpt, bind_def]
  rfl

/-- **`||` does not evaluate its right operand when the left one is true**, and yields `true` -/
theorem or_short_circuits (l rgt : Expr) (lv : Val) (rt rt1 : RT)
    (hl : r.evalExpr env l rt = .ok lv rt1) (ht : Val.isTrue lv = some true) :
    evalExprF r env (.logic loc false l rgt) rt = .ok (.bool true) rt1 := by
  simp only [evalExprF]
  rw [bind_ok hl]
  simp [ht, liftOpt, bind_def]
  rfl

/-- otherwise the result is the truth value of the right operand — a bool, whatever its kind -/
theorem logic_yields_bool (isAnd : Bool) (l rgt : Expr) (v : Val) (rt rt' : RT)
    (h : evalExprF r env (.logic loc isAnd l rgt) rt = .ok v rt') : ∃ t, v = .bool t := by
  simp only [evalExprF, bind_eq_ok] at h
  obtain ⟨lv, rt1, _, lt, rt2, _, h⟩ := h
  -- whichever way it goes, the value returned is `pure (.bool _)`
  have last : ∀ (t : Bool) (rt : RT), (pure (Val.bool t) : M Val) rt = .ok v rt' → ∃ t, v = .bool t :=
    fun t _ h => by cases h; exact ⟨t, rfl⟩
  have right : ∀ rt, (do
        let rv ← r.evalExpr env rgt
        let t ← liftOpt "isTrue" (Val.isTrue rv)
        pure (Val.bool t) : M Val) rt = .ok v rt' → ∃ t, v = .bool t := fun rt h => by
    simp only [bind_eq_ok] at h
    obtain ⟨_, _, _, t, rt4, _, h⟩ := h
    exact last t rt4 h
  cases isAnd <;> cases lt
  · exact right _ h
  · exact last _ _ h
  · exact last _ _ h
  · exact right _ h

/-- **`?:` evaluates the condition and exactly one branch** -/
theorem ternary_is_lazy (c l rgt : Expr) (cv : Val) (t : Bool) (rt rt1 : RT)
    (hc : r.evalExpr env c rt = .ok cv rt1) (ht : Val.isTrue cv = some t) :
    evalExprF r env (.ternary loc c l rgt) rt =
      (if t then r.evalExpr env l rt1 else r.evalExpr env rgt rt1) := by
  simp only [evalExprF]
  rw [bind_ok hc]
  simp only [ht, liftOpt, bind_def]
  cases t <;> rfl

end JetVerif.Props.C04
