/-
  C06 — field, index and method access reach Go data uniformly and fail loudly.
  Model: JetVerif/Model/StructCache.lean (`buildCache`, the struct field table), and
  `resolveIndex` / `indexArg` in JetVerif/Model/Eval.lean (maps, slices, strings, pointers,
  interfaces).
-/
import JetVerif.Lemmas.StructCache
import JetVerif.Lemmas.EvalEqns

namespace JetVerif.Props.C06
open JetVerif JetVerif.Eval JetVerif.StructCache

/-- the fields reached by following `path` through exported anonymous struct fields -/
def subAt : List F → List Nat → Option (List F)
  | fs, [] => some fs
  | fs, i :: rest =>
    match fs[i]? with
    | some f => if f.exported && f.anonymous && f.isStruct then subAt f.sub rest else none
    | none => none

/-- `path` is a legitimate way to reach a field called `k` from the struct `root`: every step but
    the last goes through an exported embedded struct, and the last selects an exported field whose
    name is `k` — i.e. `v.FieldByIndex(path)` is the field a Go program calls `v.k` (or a field of
    that name it hides). -/
def ValidEntry (root : List F) (k : Bytes) (path : List Nat) : Prop :=
  ∃ pre i fs f, path = pre ++ [i] ∧ subAt root pre = some fs ∧ fs[i]? = some f ∧
    f.name = k ∧ f.exported = true

def Sound (root : List F) (c : Cache) : Prop :=
  ∀ k path, alookup k c = some path → ValidEntry root k path

theorem sound_nil (root : List F) : Sound root [] := by
  intro k path h; simp [alookup] at h

/-- what `put` does to the entry for `k`: nothing, or - only if `name = k` and `index` is shorter than what
    was there - it becomes `index` -/
theorem put_cases (name : Bytes) (index : List Nat) (c : Cache) (k : Bytes) :
    alookup k (put name index c) = alookup k c ∨
      name = k ∧ alookup k (put name index c) = some index ∧
        ∀ old, alookup k c = some old → index.length < old.length := by
  unfold put
  by_cases hk : name = k
  · subst hk
    cases h : alookup name c with
    | none =>
      simp only
      exact .inr ⟨trivial, by rw [alookup_aset, if_pos rfl], fun _ h => nomatch h⟩
    | some o =>
      simp only
      split
      · exact .inr ⟨trivial, by rw [alookup_aset, if_pos rfl], fun old ho => by cases ho; assumption⟩
      · exact .inl h
  · left
    split
    · split
      · rw [alookup_aset, if_neg hk]
      · rfl
    · rw [alookup_aset, if_neg hk]

theorem sound_put (root : List F) (c : Cache) (name : Bytes) (index : List Nat)
    (hc : Sound root c) (hv : ValidEntry root name index) : Sound root (put name index c) := by
  intro k path h
  rcases put_cases name index c k with e | ⟨rfl, e, _⟩
  · exact hc k path (e ▸ h)
  · cases e ▸ h; exact hv

theorem subAt_append (root : List F) (p q : List Nat) :
    subAt root (p ++ q) = (subAt root p).bind (subAt · q) := by
  induction p generalizing root with
  | nil => rfl
  | cons i rest ih =>
    simp only [List.cons_append, subAt]
    cases root[i]? with
    | none => rfl
    | some f =>
      dsimp only
      split
      · exact ih f.sub
      · rfl

theorem sound_build (root : List F) :
    ∀ (fuel : Nat) (fs : List F) (parent : List Nat) (c : Cache),
      subAt root parent = some fs → Sound root c → Sound root (build fuel fs parent c) :=
  build_inv (Sound root) (fun parent fs => subAt root parent = some fs)
    (fun parent fs i f hq hf he hs => by
      rw [subAt_append, hq]
      simp only [Option.bind_some, subAt, hf, he, hs, Bool.true_and, if_true])
    (fun parent fs i f c hq hf he hc => sound_put root c f.name _ hc ⟨parent, i, fs, f, rfl, hq, hf, rfl, he⟩)

/-- **No struct access yields a field other than one of that name.**  For every struct type —
    any fields, any nesting of embedded structs, any name clashes — every entry `name ↦ path` of
    the table `buildCache` produces leads, through exported embedded structs only, to an exported
    field called `name`. -/
theorem buildCache_sound (root : List F) : Sound root (buildCache root) :=
  sound_build root 64 root [] [] rfl (sound_nil root)

/-- entries only ever get shorter: an update never replaces a path by a longer or equally long one -/
theorem put_length (name : Bytes) (index : List Nat) (c : Cache) (k : Bytes) (old : List Nat)
    (h : alookup k c = some old) :
    ∃ new, alookup k (put name index c) = some new ∧ new.length ≤ old.length := by
  rcases put_cases name index c k with e | ⟨_, e, hlt⟩
  · exact ⟨old, e ▸ h, Nat.le_refl _⟩
  · exact ⟨index, e, Nat.le_of_lt (hlt old h)⟩

/-- an entry stays unless the new path is strictly shorter -/
theorem put_keeps (name : Bytes) (index : List Nat) (c : Cache) (k : Bytes) (old : List Nat)
    (h : alookup k c = some old) (hle : old.length ≤ index.length) :
    alookup k (put name index c) = some old := by
  rcases put_cases name index c k with e | ⟨_, _, hlt⟩
  · exact e ▸ h
  · exact absurd (hlt old h) (Nat.not_lt.mpr hle)

theorem keep_build (k : Bytes) (i0 : Nat) (fuel : Nat) (fs : List F) (parent : List Nat) (c : Cache) :
    alookup k c = some [i0] → alookup k (build fuel fs parent c) = some [i0] :=
  build_inv (fun c => alookup k c = some [i0]) (fun _ _ => True) (fun _ _ _ _ _ _ _ _ => trivial)
    (fun parent _ i f c _ _ _ hc => put_keeps f.name _ c k [i0] hc (by simp)) fuel fs parent c trivial

def Deep (k : Bytes) (c : Cache) : Prop := ∀ p, alookup k c = some p → 2 ≤ p.length

theorem deep_put (k name : Bytes) (index : List Nat) (c : Cache) (hc : Deep k c)
    (h : name ≠ k ∨ 2 ≤ index.length) : Deep k (put name index c) := by
  intro p hp
  rcases put_cases name index c k with e | ⟨hk, e, _⟩
  · exact hc p (e ▸ hp)
  · cases e ▸ hp; exact h.resolve_left (fun f => f hk)

theorem put_direct_of_deep (k : Bytes) (i : Nat) (c : Cache) (h : Deep k c) :
    alookup k (put k [i] c) = some [i] := by
  unfold put
  cases hl : alookup k c with
  | none => simp only; rw [alookup_aset]; simp
  | some old =>
    have hlt : [i].length < old.length := by have := h old hl; simp; omega
    simp only [hlt, if_true]; rw [alookup_aset]; simp

/-- below the top level every path has two steps: `Deep k` survives whatever the fields are called -/
theorem deep_build_nested (k : Bytes) (fuel : Nat) (fs : List F) (parent : List Nat) (c : Cache)
    (hne : parent ≠ []) : Deep k c → Deep k (build fuel fs parent c) :=
  build_inv (Deep k) (fun parent _ => parent ≠ []) (fun _ _ _ _ _ _ _ _ => by simp)
    (fun parent _ i f c hq _ _ hc => deep_put k f.name _ c hc <| .inr <| by
      cases parent with
      | nil => exact absurd rfl hq
      | cons a t => simp) fuel fs parent c hne

/-- the top-level loop: as long as no exported direct field called `k` has been seen, entries for
    `k` are deep -/
theorem direct_loop (n : Nat) (k : Bytes) :
    ∀ (rest : List F) (i : Nat) (c : Cache), Deep k c →
      (∀ (j : Nat) (f : F), rest[j]? = some f → f.exported = true → f.name = k → False) →
      Deep k (loop (build n) [] i rest c) := fun rest i c h hno =>
  loop_inv (build n) [] (Deep k) rest i c h fun j f c hf he hc => by
    refine deep_put k f.name _ _ ?_ (.inl (hno j f hf he))
    split
    · exact deep_build_nested k n _ _ _ (by simp) hc
    · exact hc

/-- once the first exported direct field called `k` (index `i + j`) is seen its entry is the one-step
    path, and stays -/
theorem direct_loop_found (n : Nat) (k : Bytes) (rest : List F) (i : Nat) (c : Cache) (j : Nat) (f : F)
    (hdeep : Deep k c) (hf : rest[j]? = some f) (hexp : f.exported = true) (hname : f.name = k)
    (hfirst : ∀ (j' : Nat) (g : F), j' < j → rest[j']? = some g → g.exported = true → g.name = k → False) :
    alookup k (loop (build n) [] i rest c) = some [i + j] := by
  -- the fields before `f` keep `Deep k`; `f`'s own one-step path beats every deep one; the fields after keep it
  obtain ⟨hj, hfj⟩ := List.getElem?_eq_some_iff.mp hf
  have hsplit := List.take_append_drop j rest
  rw [List.drop_eq_getElem_cons hj, hfj] at hsplit
  have hpre : Deep k (loop (build n) [] i (rest.take j) c) := direct_loop n k _ i c hdeep fun j' g hg => by
    rw [List.getElem?_take] at hg
    split at hg
    · exact hfirst j' g ‹_› hg
    · cases hg
  rw [← hsplit, loop_append, loop_cons, if_pos hexp, List.length_take_of_le (Nat.le_of_lt hj)]
  generalize loop (build n) [] i (rest.take j) c = c1 at hpre
  refine loop_inv (build n) [] (fun c => alookup k c = some [i + j]) _ _ _ ?_ fun j' g c _ _ hc => ?_
  · rw [visit, hname, List.nil_append]
    refine put_direct_of_deep k _ _ ?_
    split
    · exact deep_build_nested k n _ _ _ (by simp) hpre
    · exact hpre
  · refine put_keeps _ _ _ _ _ ?_ (by simp)
    split
    · exact keep_build k _ n _ _ _ hc
    · exact hc

/-- **A struct's own field is never hidden by a promoted one.**  If the struct itself has an
    exported field called `k`, `a.k` resolves to the first such field — whatever embedded structs
    (before or after it, at any depth) also have a field of that name. -/
theorem direct_field_wins (root : List F) (k : Bytes) (j : Nat) (f : F)
    (hf : root[j]? = some f) (hexp : f.exported = true) (hname : f.name = k)
    (hfirst : ∀ (j' : Nat) (g : F), j' < j → root[j']? = some g → g.exported = true → g.name = k → False) :
    alookup k (buildCache root) = some [j] := by
  have := direct_loop_found 63 k root 0 [] j f (by intro p hp; simp [alookup] at hp) hf hexp hname hfirst
  simpa [buildCache, build] using this

/-! ### indexing (Model/Eval.lean `resolveIndex`, `indexArg`) -/

/-- **indexing a map with an absent key yields nil** (an invalid value), never an error and never
    another entry's value -/
theorem map_absent_key_is_nil (es : List (Bytes × Val)) (ifc nl : Bool) (k : Bytes)
    (h : alookup k es = none) :
    resolveIndex (.smap es ifc nl) (.str k) none = .ok .invalid := by
  rw [resolveIndex_smap, h]

/-- **a map entry is returned as stored** (through `indirectEface` when the element type is an
    interface) -/
theorem map_present_key (es : List (Bytes × Val)) (ifc nl : Bool) (k : Bytes) (v : Val)
    (h : alookup k es = some v) :
    resolveIndex (.smap es ifc nl) (.str k) none = .ok (elemOut ifc v) := by
  rw [resolveIndex_smap, h]

/-- **`a.b` agrees with `a["b"]` on maps**: the field form passes the name as `indexAsStr`, the
    index form passes a string value -/
theorem map_field_eq_index (es : List (Bytes × Val)) (ifc nl : Bool) (k : Bytes) :
    resolveIndex (.smap es ifc nl) .invalid (some k) = resolveIndex (.smap es ifc nl) (.str k) none :=
  field_eq_index _ k

/-- **`a.b` agrees with `a["b"]` on structs** -/
theorem struct_field_eq_index (tn : String) (fs : List (Bytes × Val)) (k : Bytes) :
    resolveIndex (.struct tn fs) .invalid (some k) = resolveIndex (.struct tn fs) (.str k) none :=
  field_eq_index _ k

/-- **a missing (or unexported) struct field is an error** -/
theorem struct_missing_field_is_error (tn : String) (fs : List (Bytes × Val)) (k : Bytes)
    (h : alookup k fs = none) (hm : methodByName tn false k = none) :
    ∃ e, resolveIndex (.struct tn fs) (.str k) none = .error (.err e) := by
  rw [resolveIndex_struct, hm, h]; exact ⟨_, rfl⟩

/-- **a method of that name wins over a field**, and is bound to the value it was selected on;
    reached through a pointer the value is addressable, so pointer-receiver methods are in the set -/
theorem method_wins_over_field (tn : String) (fs : List (Bytes × Val)) (k : Bytes) (m : String)
    (hm : methodByName tn false k = some m) :
    resolveIndex (.struct tn fs) (.str k) none = .ok (.method m (.struct tn fs)) := by
  rw [resolveIndex_struct, hm]

theorem method_through_pointer (tn pn : String) (fs : List (Bytes × Val)) (k : Bytes) (m : String)
    (hm : methodByName tn true k = some m) :
    resolveIndex (.ptr pn (some (.struct tn fs))) (.str k) none = .ok (.method m (.struct tn fs)) := by
  simp [resolveIndex, Val.isValid, indirectA, hm]
  rfl

/-- **a pointer-receiver method is not in the method set of a non-addressable value** (the harness
    type `T3`: `PTag` has a pointer receiver, `Tag` a value receiver) -/
theorem pointer_method_needs_addressable :
    methodByName "T3" false [80, 84, 97, 103] = none ∧
    methodByName "T3" true [80, 84, 97, 103] = some "PTag" ∧
    methodByName "T3" false [84, 97, 103] = some "Tag" := by
  decide

/-- **an out-of-range or negative index is an error, an in-range one selects that element** -/
theorem indexArg_in_range (i : Int) (cap : Nat) :
    (0 ≤ i ∧ i < cap → indexArg (.int i) cap = .ok i.toNat) ∧
    (¬ (0 ≤ i ∧ i < cap) → ∃ e, indexArg (.int i) cap = .error (.err e)) := by
  constructor
  · intro ⟨h0, h1⟩
    unfold indexArg
    have : ¬ (i < 0 ∨ i ≥ cap) := by omega
    simp [this]
    rfl
  · intro h
    unfold indexArg
    have : (i < 0 ∨ i ≥ cap) := by omega
    simp [this, errPlain, throwErr, Fails.failWith]

/-- **a slice element is returned as stored** -/
theorem slice_index (es : List Val) (ifc nl : Bool) (i : Nat) (e : Val) (h : es[i]? = some e) :
    resolveIndex (.slice es ifc nl) (.int i) none = .ok (elemOut ifc e) := by
  have hi : i < es.length := (List.getElem?_eq_some_iff.mp h).1
  have ha : indexArg (.int i) es.length = .ok i := by
    have := (indexArg_in_range (i : Int) es.length).1 ⟨by omega, by exact_mod_cast hi⟩
    simpa using this
  simp only [resolveIndex, Val.isValid, indirectA, ha]
  simp [bind, Except.bind, h]
  rfl

/-- **nil dereferences are errors** -/
theorem nil_pointer_is_error (tn : String) (idx : Val) (s : Option Bytes) :
    ∃ e, resolveIndex (.ptr tn none) idx s = .error (.err e) :=
  ⟨_, rfl⟩

end JetVerif.Props.C06
