/-
  C12, the link between the parser and the evaluator theorems: what the parser model produces has the shape the
  evaluator theorems assume.

  Props/C12T.lean proves that `Execute` only ever re-raises a panic of a called Go function, for syntax trees
  satisfying `TmplWf` / `EnvWf` (Lemmas/EvalWf.lean: the shapes of parsed syntax the evaluator relies on).  Here
  these shapes are proved of the parser model (Model/Parse.lean), through all its productions:

  * Lemmas/ParseShapeDefs.lean states the shapes on the parser's own trees (`PExpr.Shaped`, `PSet.Shaped`,
    `PSet.LenOk`, `PCmd.Shaped`, `PPipe.Shaped`, `PStmt.Shaped`, `PTmpl.Shaped`);
  * Lemmas/ParseShape.lean proves them of every production (for every item sequence, fuel, literal table and
    loader), including of every block registered in `passedBlocks`;
  * Lemmas/ShapeErase.lean restates the erasure of Driver/ExecSrc.lean (`exprA`, `setA`, `cmdA`, `pipeA`,
    `paramsA`, `stmtA`, `optListA`; several of them `partial def`s there) as total functions and proves that
    it maps shaped parser trees to well-formed evaluator trees; the effective block tables
    (`Blocks.tableOf`: own definitions collected from the erased root by `ownRegs`, plus those of the
    extended and imported templates of the store) hold well-formed blocks as soon as every root of the
    store is well-formed - the table is NOT built from the parser's `passed` list, so no hypothesis about
    block tables is left.
-/
import JetVerif.Lemmas.ParseShape
import JetVerif.Lemmas.ShapeErase
import JetVerif.Props.C12T

namespace JetVerif.Props.C12W
open JetVerif JetVerif.Lex JetVerif.Parse JetVerif.Eval

/-- every node `parseTemplate` returns and every block it registers is shaped, whatever the items -/
theorem parsed_tree_is_shaped (cfg : Parse.Cfg) (name input : Bytes) (toks : List Parse.Item) (fuel : Nat)
    (rl : Nat) (nodes : List Parse.PStmt) (s' : Parse.PSt)
    (hk : Parse.parseTemplate cfg fuel { input := input, name := name, toks := toks } = .ok (rl, nodes) s') :
    (∀ n ∈ nodes, n.Shaped) ∧ (∀ b ∈ s'.passed, b.2.Shaped) := by
  obtain ⟨hj, hr⟩ := parseTemplate_shape cfg fuel _ (initial_JS input name toks) _ _ hk
  exact ⟨hr.2, hj⟩

/-- **the same from source bytes**, for every delimiter configuration: root list and registered blocks of
    the template `Set.parse` returns -/
theorem parsed_template_is_shaped (cfg : Parse.Cfg) (l r lc rc name input : Bytes) (t : Parse.PTmpl)
    (h : Parse.parseSource cfg (mkDelims l r lc rc) name input = .ok t) : t.Shaped := by
  obtain ⟨evs, -, h⟩ := parseSource_eq_ok h
  obtain ⟨rl, nodes, s, hp, rfl⟩ := parseItems_eq_ok h
  exact parsed_tree_is_shaped cfg name input _ _ rl nodes s hp

/-- **What the parser model produces has the shape the evaluator theorems assume**: the erasure
    (`eraseTmpl`, the total restatement of Driver/ExecSrc.lean's `stmtA` on the root list, block table empty as
    in `parseFile`) of a parsed template is well-formed. -/
theorem parsed_template_is_well_formed (cfg : Parse.Cfg) (l r lc rc name input path : Bytes) (t : Parse.PTmpl)
    (t' : Tmpl) (h : Parse.parseSource cfg (mkDelims l r lc rc) name input = .ok t)
    (he : eraseTmpl path t = some t') : TmplWf t' :=
  eraseTmpl_wf (parsed_template_is_shaped cfg l r lc rc name input t h).1 he

/-- the blocks the parser registered in `passedBlocks` erase to well-formed block nodes as well -/
theorem parsed_blocks_are_well_formed (cfg : Parse.Cfg) (l r lc rc name input path : Bytes) (t : Parse.PTmpl)
    (h : Parse.parseSource cfg (mkDelims l r lc rc) name input = .ok t) (b : Bytes × Parse.PStmt)
    (hb : b ∈ t.passed) (b' : Stmt) (he : eraseStmt path b.2 = some b') : StmtWf b' :=
  eraseStmt_wf path _ _ ((parsed_template_is_shaped cfg l r lc rc name input t h).2 b hb) he

/-- a store all of whose templates were produced by the parser model and the erasure (each file with its own
    literal table, loader, delimiters and path) -/
def FromSources (usable : List (Bytes × Option Tmpl)) : Prop :=
  ∀ p ∈ usable, ∀ tm, p.2 = some tm →
    ∃ (cfg : Parse.Cfg) (l r lc rc name input path : Bytes) (t : Parse.PTmpl),
      Parse.parseSource cfg (mkDelims l r lc rc) name input = .ok t ∧ eraseTmpl path t = some tm

/-- the environment `exec-src` builds - every file parsed by the model and erased, then every template given
    its effective block table (`withBlocks` restates that step of `execSrcCmd`) - is well-formed -/
theorem parsed_store_is_well_formed (usable : List (Bytes × Option Tmpl)) (hu : FromSources usable) (env : Env)
    (hs : env.store = withBlocks usable) : EnvWf env := by
  refine withBlocks_envWf usable ?_ env hs
  intro p hp tm htm
  obtain ⟨cfg, l, r, lc, rc, name, input, path, t, h, he⟩ := hu p hp tm htm
  exact (parsed_template_is_well_formed cfg l r lc rc name input path t tm h he).root

/-- **Executing a parsed template never re-raises a panic of the engine's own making**: all files of the
    environment parsed by the model, the entry template looked up in it; the only panic `Execute` re-raises is
    one raised by a called Go function. -/
theorem parsed_templates_only_repanic_callee_panics (usable : List (Bytes × Option Tmpl)) (hu : FromSources usable)
    (env : Env) (hs : env.store = withBlocks usable) (entry : Bytes) (t : Tmpl) (ht : findTmpl env entry = some t)
    (fuel : Nat) (vars : List (Bytes × Val)) (data : Val) (msg : String) (out : List Chunk) :
    execute fuel env t vars data = .crash msg out → CalleePanic msg := by
  have he := parsed_store_is_well_formed usable hu env hs
  exact C12T.execute_only_repanics_callee_panics fuel env t vars data (findTmpl_wf he entry t ht) he msg out

/-! ### non-vacuity -/

/-- literal table of the demo: the number tokens `1` and `2` -/
private def demoCfg : Parse.Cfg :=
  { lit := fun ty txt => if ty = Tok.number then
      (match txt with
       | [49] => .num true true true false 1 1 0
       | [50] => .num true true true false 2 2 0
       | _ => .unknown) else .unknown
    load := fun _ => none }

/-- a lookup assignment, a range with `:=`, a pipeline with a slot and a product, a block definition -/
private def demoSrc : List UInt8 :=
  Parse.str "{{ a, ok := m[1] }}{{ range i, v := .L }}{{ v | f(_, 2*i) }}{{ end }}{{ block b(p=a) }}hi{{ end }}"

private def demoChk : Parse.Outcome → Bool
  | .ok t => (match eraseTmpl [] t with | some t' => t'.root.length == 3 && t.passed.length == 1 | none => false)
  | _ => false

/-- the hypotheses of `parsed_template_is_well_formed` are satisfiable: the demo source lexes, parses (three root
    nodes, one registered block) and erases, and the result is well-formed -/
example : ∃ t t', Parse.parseSource demoCfg (mkDelims [] [] [] []) [] demoSrc = .ok t ∧ eraseTmpl [] t = some t' ∧
    t'.root.length = 3 ∧ t.passed.length = 1 ∧ TmplWf t' := by
  have hc : demoChk (Parse.parseSource demoCfg (mkDelims [] [] [] []) [] demoSrc) = true := by decide +kernel
  cases hp : Parse.parseSource demoCfg (mkDelims [] [] [] []) [] demoSrc with
  | ok t =>
    rw [hp] at hc
    simp only [demoChk] at hc
    cases he : eraseTmpl [] t with
    | none => rw [he] at hc; simp at hc
    | some t' =>
      rw [he] at hc
      simp at hc
      exact ⟨t, t', rfl, he, hc.1, hc.2, parsed_template_is_well_formed demoCfg [] [] [] [] [] demoSrc [] t t' hp he⟩
  | _ => rw [hp] at hc; simp [demoChk] at hc

/-- the shapes are not trivially true: a pipeline without commands, a `:=` of a field, a product node with `+` -/
example : ¬ (Parse.PStmt.action 1 none (some { line := 1, cmds := [] })).Shaped := by
  simp [PStmt.Shaped, PPipe.Shaped]
private def letOfField : Parse.PSet :=
  { line := 1, isLet := true, lookup := false, left := [.field 1 [[120]]], right := [.nilLit 1] }
example : ¬ (Parse.PStmt.action 1 (some letOfField) none).Shaped := by
  simp [PStmt.Shaped, PSet.Shaped, LeftShape, PExpr.nt, letOfField]
example : ¬ (Parse.PExpr.binary .mul 1 Tok.add (some (.nilLit 1)) (.nilLit 1)).Shaped := by
  intro h
  simp only [PExpr.Shaped, MulTok, Tok.code_eq] at h
  exact absurd (h.2.2 trivial).1 (by decide)

end JetVerif.Props.C12W
