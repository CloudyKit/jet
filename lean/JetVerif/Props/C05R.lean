/-
  C05, the evaluator's part for `range` over slices — "range renders its body once per element - in order
  for slices … - binding the index/key, the value and '.' as documented for the zero-, one- and two-variable
  forms, and renders the else branch instead exactly when there are no elements."

  Props/C05.lean proves facts about the slice RANGER (`slice_ranger_in_order`) and about `rangeLoop` on an
  empty ranger; Props/C05P.lean proves that the parser maps the spelling of a range statement to the promised
  tree.  Here:

  A. (evaluator, AST level)  For a `Stmt.rangeS` of the shape the parser builds, an ARBITRARY body, and a range
     expression whose value ranges as a slice of `x₀ … x_{n-1}` (a typed slice, a `[]interface{}`, a pointer
     to / an interface around one: `getRanger v = .ok (.sliceR es 0 ifc)`), executing the statement is an
     explicitly defined fold over the element list (`RangeChain.iterate`):

       iterate step i []        = nothing (the invalid value)
       iterate step i (x :: xs) = do ret ← step i x; if ret.IsValid() then ret else iterate step (i+1) xs

     where `step i x` is ONE rendering of the body:
       zero variables   `withCtxND (dotOf ifc x) (r.execList env body)`: `.` = the element, unwrapped by
                        `indirectEface` (an element of a `[]interface{}` reaches `.` as its dynamic value; a nil
                        one stays a nil interface); `.` is put back afterwards;
       `k := e`         `letVar k i` then the same: with ONE variable it receives the INDEX and `.` the element
                        (that is what eval.go does: the value slot exists only when there are two variables);
       `k, v := e`      `letVar k i; letVar v x'; r.execList env body` with `x'` the ranger's value (for a
                        `[]interface{}` the Interface-kinded value; identifier lookups unwrap it); `.` untouched.
     The runtime (sinks, log, frames) is threaded from one iteration to the next; a failing body is the
     statement's failure (nothing after it runs).  With no element the statement is the else list, or nothing.

     What the model does, precisely - deviations from the informal reading are marked (!):
     * fuel: every iteration runs the body with the SAME `r`; a range executed by `execStmt (recAt K)` runs
       its body by `(recAt K).execList` and evaluates its expression by `(recAt K).evalExpr`, whatever `n` is.
       There is no fuel per iteration.  The loop has its own counter starting at 100000 and a slice of `n`
       elements needs `n + 1` calls of `Range()`: the theorems require `n < 100000`; beyond, the model answers
       `unsupported "range too long"` (`range_too_long_is_outside_the_model`).
     * `ret.IsValid()`: a body that returns a valid value (a `{{return}}` in it) ends the loop and that value
       is the statement's value (`range_stops_when_the_body_returns`).
     * (!) the declaring forms open ONE scope around the whole loop (`st.newScope()` before the loop,
       `st.releaseScope()` after it, not deferred), not a fresh scope per iteration: `k` and `v` are
       re-assigned in that scope each time round.  The range expression is evaluated BEFORE the scope opens.
     * (!) the model puts `.` back after every iteration (Go: once after the loop; nothing can observe the
       difference, see the comment in `rangeLoop`), so "`.` afterwards" holds iteration by iteration:
       `range_puts_dot_back`.

  B. (composition)  For an identifier range expression and text-only body and else list: the parser model maps
     the spelling `{{range x}}` texts `{{else}}` texts' `{{end}}` to a tree (C05P), the tree erases to
     `rangeStmt0` (`RangeChain.eraseR`: `IfChain.eraseS` does not cover `.branch false …` nodes, so the range
     case of `Driver/ExecSrc.lean`'s `stmtA` - a `partial def` - is restated there), and `Template.Execute` on
     it writes the body's text exactly `n` times when `x` stands for a slice of `n ≥ 1` elements, the else
     text once when `n = 0`, and nothing else; likewise for `{{range k, v := x}}` (`rangeStmt2`).  The parser
     step is `textOrAction` on the statement's spelling (statement level, as in C05P / C05E), not a whole
     `parseSource` run.

  Lemmas: JetVerif/Lemmas/RangeChain.lean.
-/
import JetVerif.Lemmas.RangeChain
import JetVerif.Props.C05E

namespace JetVerif.Props.C05R
open JetVerif JetVerif.Eval JetVerif.IfChain JetVerif.RangeChain JetVerif.TextOnly

/-! ### A. the evaluator on slices of any length -/

/-- **A range statement is `execRange`, whose value it hands on**; it does not touch the let-scope flag of
    the list it stands in. -/
theorem range_statement_is_execRange (r : Rec) (env : Env) (ins : Bool) (loc : Loc) (set : Option SetN)
    (e : Option Expr) (body : List Stmt) (els : Option (List Stmt)) (rt : RT) :
    execStmt r env ins (.rangeS loc set e body els) rt = stmtRes ins (execRange r env loc set e body els rt) :=
  execStmt_range r env ins loc set e body els rt

/-- **`{{range e}}body{{else}}els{{end}}` over `n ≥ 1` elements renders `body` once per element, in order,
    with `.` = the element.**  If `e` evaluates (leaving runtime `rt1`) to a value that ranges as the slice
    `x :: xs` (fewer than 100000 elements), the statement is the fold `iterate` over `x :: xs` from `rt1`: the
    i-th step runs `body` (by the same `r.execList` that runs the list the statement stands in) with `.` bound
    to the unwrapped i-th element and puts `.` back; the runtime is threaded through; a step that returns a
    valid value or fails ends the loop.  `els` does not occur on the right. -/
theorem range_runs_its_body_once_per_element_in_order (r : Rec) (env : Env) (ins : Bool) (loc : Loc) (e : Expr)
    (body : List Stmt) (els : Option (List Stmt)) (rt rt1 : RT) (v x : Val) (xs : List Val) (ifc : Bool)
    (he : r.evalExpr env e rt = .ok v rt1) (hv : getRanger v = .ok (.sliceR (x :: xs) 0 ifc))
    (hlen : (x :: xs).length < 100000) :
    execStmt r env ins (.rangeS loc none (some e) body els) rt =
      stmtRes ins (iterate (fun _ y => withCtxND (dotOf ifc y) (r.execList env body)) 0 (x :: xs) rt1) := by
  rw [execStmt_range, execRange_none r env loc e body els rt rt1 v (x :: xs) ifc he hv hlen]
  simp only [loopRes, iterStep_none]
  rfl

/-- the same, with the fuel spelled out and the value a slice: executed at fuel `K`, expression and every
    rendering of the body run at fuel `K` -/
theorem range_over_slice_at_fuel (K : Nat) (env : Env) (ins : Bool) (loc : Loc) (e : Expr)
    (body : List Stmt) (els : Option (List Stmt)) (rt rt1 : RT) (x : Val) (xs : List Val) (ifc nl : Bool)
    (he : (recAt K).evalExpr env e rt = .ok (.slice (x :: xs) ifc nl) rt1) (hlen : (x :: xs).length < 100000) :
    execStmt (recAt K) env ins (.rangeS loc none (some e) body els) rt =
      stmtRes ins (iterate (fun _ y => withCtxND (dotOf ifc y) ((recAt K).execList env body)) 0 (x :: xs) rt1) :=
  range_runs_its_body_once_per_element_in_order (recAt K) env ins loc e body els rt rt1 _ x xs ifc he
    (getRanger_slice _ ifc nl) hlen

/-- what `.` is for an element: the element itself for a typed slice (interface values apart), the
    dynamic value for a non-nil element of a `[]interface{}`, a nil interface for a nil element -/
theorem dot_of_typed_element (x : Val) (h : ∀ y, x ≠ .iface y) : dotOf false x = x := by
  cases x <;> simp_all [dotOf, elemVal, Val.indirectEface]
theorem dot_of_interface_element (x : Val) (h : x ≠ .invalid) : dotOf true x = x :=
  C05.element_unwrapped x h
theorem dot_of_nil_interface_element : dotOf true .invalid = .iface .invalid := rfl

/-- **No elements, with `{{else}}`: the else list runs, the body does not** (`body` does not occur on the
    right); it runs at the statement's fuel, from the runtime the expression left, in no scope of its own. -/
theorem range_over_empty_runs_else (r : Rec) (env : Env) (ins : Bool) (loc : Loc) (e : Expr)
    (body l : List Stmt) (rt rt1 : RT) (v : Val) (ifc : Bool)
    (he : r.evalExpr env e rt = .ok v rt1) (hv : getRanger v = .ok (.sliceR [] 0 ifc)) :
    execStmt r env ins (.rangeS loc none (some e) body (some l)) rt = stmtRes ins (r.execList env l rt1) := by
  rw [execStmt_range, execRange_none r env loc e body _ rt rt1 v [] ifc he hv (by decide)]
  rfl

/-- **No elements, no `{{else}}`: nothing happens** — no value, and the runtime (output included) is the
    one the expression left. -/
theorem range_over_empty_without_else_writes_nothing (r : Rec) (env : Env) (ins : Bool) (loc : Loc) (e : Expr)
    (body : List Stmt) (rt rt1 : RT) (v : Val) (ifc : Bool)
    (he : r.evalExpr env e rt = .ok v rt1) (hv : getRanger v = .ok (.sliceR [] 0 ifc)) :
    execStmt r env ins (.rangeS loc none (some e) body none) rt = .ok (.invalid, .invalid, ins) rt1 := by
  rw [execStmt_range, execRange_none r env loc e body _ rt rt1 v [] ifc he hv (by decide)]
  rfl

/-- **With at least one element the else list plays no role**: same statement with another else list, or
    none, behaves identically. -/
theorem else_is_ignored_when_there_are_elements (r : Rec) (env : Env) (ins : Bool) (loc : Loc) (e : Expr)
    (body : List Stmt) (els els' : Option (List Stmt)) (rt rt1 : RT) (v x : Val) (xs : List Val) (ifc : Bool)
    (he : r.evalExpr env e rt = .ok v rt1) (hv : getRanger v = .ok (.sliceR (x :: xs) 0 ifc))
    (hlen : (x :: xs).length < 100000) :
    execStmt r env ins (.rangeS loc none (some e) body els) rt =
      execStmt r env ins (.rangeS loc none (some e) body els') rt := by
  rw [range_runs_its_body_once_per_element_in_order r env ins loc e body els rt rt1 v x xs ifc he hv hlen,
    range_runs_its_body_once_per_element_in_order r env ins loc e body els' rt rt1 v x xs ifc he hv hlen]

/-- **The fold, one element at a time.**  A rendering that finishes without a value hands its runtime to the
    next element (index + 1); one that returns a valid value ends the loop with that value; one that fails
    is the failure of the loop. -/
theorem range_goes_on_after_a_rendering (step : Nat → Val → M Val) (i : Nat) (x : Val) (xs : List Val) (rt rt1 : RT)
    (h : step i x rt = .ok .invalid rt1) : iterate step i (x :: xs) rt = iterate step (i + 1) xs rt1 :=
  iterate_cons_ok step i x xs rt rt1 h

theorem range_stops_when_the_body_returns (step : Nat → Val → M Val) (i : Nat) (x : Val) (xs : List Val) (rt rt1 : RT)
    (v : Val) (h : step i x rt = .ok v rt1) (hv : v.isValid = true) : iterate step i (x :: xs) rt = .ok v rt1 := by
  rw [iterate_cons, bind_ok h]; simp [hv]; rfl

theorem range_fails_when_the_body_fails (step : Nat → Val → M Val) (i : Nat) (x : Val) (xs : List Val) (rt rt1 : RT)
    (e : Err) (h : step i x rt = .err e rt1) : iterate step i (x :: xs) rt = .err e rt1 := by
  rw [iterate_cons, bind_err h]

theorem range_ends_after_the_last_element (step : Nat → Val → M Val) (i : Nat) (rt : RT) :
    iterate step i [] rt = .ok .invalid rt := rfl

/-- **`.` is put back**: when the zero-variable loop finishes, `.` is what it was when the loop started
    (whatever the bodies did). -/
theorem range_puts_dot_back (r : Rec) (env : Env) (body : List Stmt) (ifc : Bool) (xs : List Val) (i : Nat)
    (a : Val) (rt rt' : RT)
    (h : iterate (fun _ y => withCtxND (dotOf ifc y) (r.execList env body)) i xs rt = .ok a rt') :
    rt'.ctx = rt.ctx := by
  induction xs generalizing i rt with
  | nil =>
    cases h
    rfl
  | cons x xs ih =>
    rw [iterate_cons, bind_eq_ok] at h
    obtain ⟨b, rt1, h1, h2⟩ := h
    have hc : rt1.ctx = rt.ctx := C05.withCtxND_ok h1
    split at h2
    · cases h2
      exact hc
    · rw [ih (i + 1) rt1 h2, hc]

/-- **`{{range k, v := e}}body{{end}}` over `n ≥ 1` elements.**  The statement's `Set` is what the parser
    builds: `:=`, two identifiers on the left, the ranged expression first on the right.  `e` is evaluated
    first (in the enclosing scope); then ONE scope is opened, the fold runs in it, and the scope is released
    (`withNewScopeND`).  The i-th step declares / re-assigns `k` = the index `i` (an `int`) and `v` = the
    i-th value in that scope, then runs `body`; `.` is not touched. -/
theorem range_two_variables_binds_index_and_value (r : Rec) (env : Env) (ins : Bool) (loc : Loc) (st : SetN)
    (oe : Option Expr) (lk lv : Loc) (k vn : Bytes) (e : Expr) (more : List Expr)
    (body : List Stmt) (els : Option (List Stmt)) (rt rt1 : RT) (v x : Val) (xs : List Val) (ifc : Bool)
    (hlet : st.isLet = true) (hl : st.left = [.ident lk k, .ident lv vn]) (hr : st.right = e :: more)
    (he : r.evalExpr env e rt = .ok v rt1) (hv : getRanger v = .ok (.sliceR (x :: xs) 0 ifc))
    (hlen : (x :: xs).length < 100000) :
    execStmt r env ins (.rangeS loc (some st) oe body els) rt =
      stmtRes ins (withNewScopeND (iterate (fun i y => do
          letVar k (.int i)
          letVar vn (elemVal ifc y)
          r.execList env body) 0 (x :: xs)) rt1) := by
  rw [execStmt_range, execRange_set r env loc st oe e more body els rt rt1 v (x :: xs) ifc hr he hv hlen]
  simp only [hlet, if_true, loopRes, iterStep_two r env st lk lv k vn body ifc hlet hl]
  rfl

/-- **`{{range k := e}}body{{end}}`: with ONE variable, it receives the index and `.` the element.** -/
theorem range_one_variable_binds_index_and_dot (r : Rec) (env : Env) (ins : Bool) (loc : Loc) (st : SetN)
    (oe : Option Expr) (lk : Loc) (k : Bytes) (e : Expr) (more : List Expr)
    (body : List Stmt) (els : Option (List Stmt)) (rt rt1 : RT) (v x : Val) (xs : List Val) (ifc : Bool)
    (hlet : st.isLet = true) (hl : st.left = [.ident lk k]) (hr : st.right = e :: more)
    (he : r.evalExpr env e rt = .ok v rt1) (hv : getRanger v = .ok (.sliceR (x :: xs) 0 ifc))
    (hlen : (x :: xs).length < 100000) :
    execStmt r env ins (.rangeS loc (some st) oe body els) rt =
      stmtRes ins (withNewScopeND (iterate (fun i y => do
          letVar k (.int i)
          withCtxND (dotOf ifc y) (r.execList env body)) 0 (x :: xs)) rt1) := by
  rw [execStmt_range, execRange_set r env loc st oe e more body els rt rt1 v (x :: xs) ifc hr he hv hlen]
  simp only [hlet, if_true, loopRes, iterStep_one r env st lk k body ifc hlet hl]
  rfl

/-- **Declaring forms over no elements: the else list (or nothing), inside the loop's scope**, which is
    opened and released around it. -/
theorem range_with_variables_over_empty_runs_else (r : Rec) (env : Env) (ins : Bool) (loc : Loc) (st : SetN)
    (oe : Option Expr) (e : Expr) (more : List Expr) (body : List Stmt) (els : Option (List Stmt)) (rt rt1 : RT)
    (v : Val) (ifc : Bool) (hlet : st.isLet = true) (hr : st.right = e :: more)
    (he : r.evalExpr env e rt = .ok v rt1) (hv : getRanger v = .ok (.sliceR [] 0 ifc)) :
    execStmt r env ins (.rangeS loc (some st) oe body els) rt =
      stmtRes ins (withNewScopeND (match els with
        | some l => r.execList env l
        | none => pure .invalid) rt1) := by
  rw [execStmt_range, execRange_set r env loc st oe e more body els rt rt1 v [] ifc hr he hv (by decide)]
  simp only [hlet, if_true, loopRes]
  rfl

/-- **A failing range expression is the statement's failure, and no body runs.** -/
theorem range_expression_failure_is_the_failure (r : Rec) (env : Env) (ins : Bool) (loc : Loc) (e : Expr)
    (body : List Stmt) (els : Option (List Stmt)) (rt rt1 : RT) (err : Err)
    (he : r.evalExpr env e rt = .err err rt1) :
    execStmt r env ins (.rangeS loc none (some e) body els) rt = .err err rt1 := by
  rw [execStmt_range, execRange_none_err r env loc e body els rt rt1 err he]
  rfl

/-- **More elements than the loop counter: outside the model.**  `rangeLoop` counts down from 100000; when
    the counter is used up the model does not claim anything about Go (`unsupported`). -/
theorem range_too_long_is_outside_the_model (r : Rec) (env : Env) (set : Option SetN) (ks vs : Option Nat)
    (body : List Stmt) (els : Option (List Stmt)) (st : RangerSt) (first : Bool) (rt : RT) :
    rangeLoop r env set ks vs body els 0 st first rt = .unsupported "range too long" := rfl

/-! ### B. parser, erasure and evaluator together: identifier expression, text body -/

open JetVerif.StmtGrammar JetVerif.Props.C05P JetVerif.Props.C05E

/-- **The tree of `{{range x}}texts[{{else}}texts']{{end}}` erases to the `rangeS` statement** without `Set`,
    with the identifier as expression, the texts as body and else list, every node on line 1. -/
theorem range_tree_erases_to_rangeS (path x : Bytes) (bs : List Bytes) (fin : Option (List Bytes)) :
    eraseR path (.branch false 1 (setV .none (ExprGrammar.tree7 (atom7 x))) (exprV .none (ExprGrammar.tree7 (atom7 x))) 1
      (treeL (textsL bs)) ((fin.map textsL).map fun l => (1, treeL l))) = some (rangeStmt0 path x bs fin) := by
  cases fin <;>
    simp [eraseR, setV, exprV, tree7_atom7, eraseE, treeL_textsL, eraseL_texts, eraseO, rangeStmt0, eFin]

/-- … and the tree of `{{range k, v := x}}texts[{{else}}texts']{{end}}` to the statement with the `Set`
    `k, v := x` the evaluator theorem `range_two_variables_binds_index_and_value` is about. -/
theorem range_tree_two_variables_erases_to_rangeS (path k v x : Bytes) (bs : List Bytes) (fin : Option (List Bytes)) :
    eraseR path (.branch false 1 (setV (.two k v) (ExprGrammar.tree7 (atom7 x))) (exprV (.two k v) (ExprGrammar.tree7 (atom7 x))) 1
      (treeL (textsL bs)) ((fin.map textsL).map fun l => (1, treeL l))) = some (rangeStmt2 path k v x bs fin) := by
  cases fin <;>
    simp [eraseR, setV, exprV, tree7_atom7, eraseE, eraseEs, eraseSet, treeL_textsL, eraseL_texts, eraseO, rangeStmt2, eFin]

/-- **`{{range x}}body text{{else}}else text{{end}}`, source spelling to output.**  For every literal table
    `cfg`, parser state about to read the spelling, and whatever items `rest` follow:

    * the parser model returns a tree and stops right behind the `{{end}}` (C05P);
    * the tree erases to a statement `s`, the zero-variable `rangeS`;
    * for all variables, globals and data such that `x` stands for a slice (typed or `[]interface{}`) of
      `n < 100000` elements (`identVal`: the variable of that name, else the global, else the built-in; `.`
      is the data) and every fuel ≥ 2, `Template.Execute` succeeds, logs nothing, and its output is
      - for `n ≥ 1`: the body's text items, one literal chunk each, in order, repeated exactly `n` times,
      - for `n = 0`: the else text items once (nothing without `{{else}}`),
      and nothing else. -/
theorem parsed_range_renders_body_n_times (cfg : Parse.Cfg) (path name x : Bytes) (bs : List Bytes)
    (fin : Option (List Bytes)) (n : Nat) (b : Parse.PSt) (it0 : Parse.Item) (rest : List Parse.Item)
    (hn : n ≥ 10 * sizeS (rangeOf .none (atom7 x) (textsL bs) (fin.map textsL))) :
    ∃ tree s,
      Parse.textOrAction cfg n (Parse.mkS b (rangeToks .none (atom7 x) (textsL bs) (fin.map textsL) ++ rest) it0 0) =
        .ok tree (Parse.mkS b rest rd 0) ∧
      eraseR path tree = some s ∧
      s = rangeStmt0 path x bs fin ∧
      (∀ (env : Env) (blocks : List (Bytes × BlockN)) (vars : List (Bytes × Val)) (data : Val)
        (e : Val) (es : List Val) (ifc nl : Bool) (m : Nat),
        identVal env vars data x = some (.slice (e :: es) ifc nl) → (e :: es).length < 100000 →
        execute (m + 2) env (tmplOf name blocks s) vars data =
          .ok (List.replicate (e :: es).length (bs.map litChunk)).flatten []) ∧
      (∀ (env : Env) (blocks : List (Bytes × BlockN)) (vars : List (Bytes × Val)) (data : Val) (ifc nl : Bool) (m : Nat),
        identVal env vars data x = some (.slice [] ifc nl) →
        execute (m + 2) env (tmplOf name blocks s) vars data = .ok ((fin.getD []).map litChunk) []) := by
  refine ⟨_, _, range_is_parsed_as_written cfg .none (atom7 x) (textsL bs) (fin.map textsL) n b it0 rest hn,
    range_tree_erases_to_rangeS path x bs fin, rfl, ?_, ?_⟩
  · intro env blocks vars data e es ifc nl m hx hlen
    exact execute_tmplOf (m + 1) env name blocks _ vars data _
      (run_rangeStmt0 m env path x bs fin _ _ (e :: es) ifc (by rw [lookupVal_initRT, hx]) (getRanger_slice _ ifc nl) hlen)
  · intro env blocks vars data ifc nl m hx
    exact execute_tmplOf (m + 1) env name blocks _ vars data _
      (run_rangeStmt0 m env path x bs fin _ _ [] ifc (by rw [lookupVal_initRT, hx]) (getRanger_slice _ ifc nl) (by decide))

/-- **`{{range k, v := x}}body text{{else}}else text{{end}}`, source spelling to output**: as
    `parsed_range_renders_body_n_times`, for the two-variable declaring form.  The loop scope is opened on
    `Execute`'s scope, `k` and `v` are re-assigned in it `n` times, the scope is released; the output is the
    body's text `n` times (`n ≥ 1`), or the else text once (`n = 0`). -/
theorem parsed_range_two_variables_renders_body_n_times (cfg : Parse.Cfg) (path name k v x : Bytes) (bs : List Bytes)
    (fin : Option (List Bytes)) (n : Nat) (b : Parse.PSt) (it0 : Parse.Item) (rest : List Parse.Item)
    (hn : n ≥ 10 * sizeS (rangeOf (.two k v) (atom7 x) (textsL bs) (fin.map textsL))) :
    ∃ tree s,
      Parse.textOrAction cfg n (Parse.mkS b (rangeToks (.two k v) (atom7 x) (textsL bs) (fin.map textsL) ++ rest) it0 0) =
        .ok tree (Parse.mkS b rest rd 0) ∧
      eraseR path tree = some s ∧
      s = rangeStmt2 path k v x bs fin ∧
      (∀ (env : Env) (blocks : List (Bytes × BlockN)) (vars : List (Bytes × Val)) (data : Val)
        (e : Val) (es : List Val) (ifc nl : Bool) (m : Nat),
        identVal env vars data x = some (.slice (e :: es) ifc nl) → (e :: es).length < 100000 →
        execute (m + 2) env (tmplOf name blocks s) vars data =
          .ok (List.replicate (e :: es).length (bs.map litChunk)).flatten []) ∧
      (∀ (env : Env) (blocks : List (Bytes × BlockN)) (vars : List (Bytes × Val)) (data : Val) (ifc nl : Bool) (m : Nat),
        identVal env vars data x = some (.slice [] ifc nl) →
        execute (m + 2) env (tmplOf name blocks s) vars data = .ok ((fin.getD []).map litChunk) []) := by
  refine ⟨_, _, range_is_parsed_as_written cfg (.two k v) (atom7 x) (textsL bs) (fin.map textsL) n b it0 rest hn,
    range_tree_two_variables_erases_to_rangeS path k v x bs fin, rfl, ?_, ?_⟩
  · intro env blocks vars data e es ifc nl m hx hlen
    obtain ⟨rt', h1, h2, h3⟩ := run_rangeStmt2_init m env path k v x bs fin (tmplOf name blocks (rangeStmt2 path k v x bs fin))
      vars data _ (e :: es) ifc hx (getRanger_slice _ ifc nl) hlen
    exact execute_tmplOf_sink (m + 1) env name blocks _ vars data _ _ rt' h1 h2 h3
  · intro env blocks vars data ifc nl m hx
    obtain ⟨rt', h1, h2, h3⟩ := run_rangeStmt2_init m env path k v x bs fin (tmplOf name blocks (rangeStmt2 path k v x bs fin))
      vars data _ [] ifc hx (getRanger_slice _ ifc nl) (by decide)
    exact execute_tmplOf_sink (m + 1) env name blocks _ vars data _ _ rt' h1 h2 h3

/-- **… an identifier that is bound nowhere: `Execute` fails with the located error "identifier not
    available" (line 1 of `path`) and has written nothing** (neither the body nor the else text). -/
theorem parsed_range_unbound_identifier_fails (env : Env) (path name x : Bytes) (blocks : List (Bytes × BlockN))
    (vars : List (Bytes × Val)) (data : Val) (bs : List Bytes) (fin : Option (List Bytes)) (m : Nat)
    (hx : identVal env vars data x = none) :
    execute (m + 2) env (tmplOf name blocks (rangeStmt0 path x bs fin)) vars data =
      .err (notAvailable ⟨path, 1⟩) [] [] := by
  refine execute_tmplOf_err (m + 1) env name blocks _ vars data _ ?_
  rw [rangeStmt0, execList_single_range]
  exact execRange_none_err _ env _ _ _ _ _ _ _ (by rw [evalExpr_ident, lookupVal_initRT, hx])

/-! ### worked instances (and non-vacuity: the hypotheses are met) -/

section examples

/-- `{{range e}}body{{end}}` over the three-element typed slice `[10, 20, 30]`, ARBITRARY body, unrolled:
    `body` with `.` = 10, then - unless it returned a value - with `.` = 20, then with `.` = 30. -/
example (r : Rec) (env : Env) (ins : Bool) (loc : Loc) (e : Expr) (body : List Stmt) (els : Option (List Stmt))
    (rt rt1 : RT) (he : r.evalExpr env e rt = .ok (.slice [.int 10, .int 20, .int 30] false false) rt1) :
    execStmt r env ins (.rangeS loc none (some e) body els) rt =
      stmtRes ins ((do
        let r1 ← withCtxND (.int 10) (r.execList env body)
        if r1.isValid then pure r1 else do
        let r2 ← withCtxND (.int 20) (r.execList env body)
        if r2.isValid then pure r2 else do
        let r3 ← withCtxND (.int 30) (r.execList env body)
        if r3.isValid then pure r3 else pure .invalid) rt1) :=
  range_runs_its_body_once_per_element_in_order r env ins loc e body els rt rt1 _ _ _ false he
    (getRanger_slice _ _ _) (by decide)

/-- the same over a `[]interface{}` holding `"a"`, nil, `true`: `.` is the dynamic value, a nil interface
    for the nil element -/
example (r : Rec) (env : Env) (ins : Bool) (loc : Loc) (e : Expr) (body : List Stmt) (els : Option (List Stmt))
    (rt rt1 : RT) (he : r.evalExpr env e rt = .ok (.slice [.str [97], .invalid, .bool true] true false) rt1) :
    execStmt r env ins (.rangeS loc none (some e) body els) rt =
      stmtRes ins ((do
        let r1 ← withCtxND (.str [97]) (r.execList env body)
        if r1.isValid then pure r1 else do
        let r2 ← withCtxND (.iface .invalid) (r.execList env body)
        if r2.isValid then pure r2 else do
        let r3 ← withCtxND (.bool true) (r.execList env body)
        if r3.isValid then pure r3 else pure .invalid) rt1) :=
  range_runs_its_body_once_per_element_in_order r env ins loc e body els rt rt1 _ _ _ true he
    (getRanger_slice _ _ _) (by decide)

/-- `{{range i, v := e}}body{{end}}` over `[10, 20]`: one scope; `i, v` = `0, 10` then `1, 20` -/
example (r : Rec) (env : Env) (ins : Bool) (loc : Loc) (e : Expr) (body : List Stmt) (els : Option (List Stmt))
    (rt rt1 : RT) (he : r.evalExpr env e rt = .ok (.slice [.int 10, .int 20] false false) rt1) :
    execStmt r env ins (.rangeS loc
        (some { loc := loc, isLet := true, lookup := false, left := [.ident loc [105], .ident loc [118]], right := [e] })
        none body els) rt =
      stmtRes ins (withNewScopeND (do
        letVar [105] (.int 0)
        letVar [118] (.int 10)
        let r1 ← r.execList env body
        if r1.isValid then pure r1 else do
        letVar [105] (.int 1)
        letVar [118] (.int 20)
        let r2 ← r.execList env body
        if r2.isValid then pure r2 else pure .invalid) rt1) := by
  rw [range_two_variables_binds_index_and_value r env ins loc _ none loc loc [105] [118] e [] body els rt rt1 _ _ _ false
    rfl rfl rfl he (getRanger_slice _ _ _) (by decide)]
  congr 1
  simp only [iterate, elemVal, RangeChain.bind_assoc]
  rfl

/-- the empty slice: the else list; without one, nothing (non-vacuity of the empty case: the expression is
    an identifier bound to an empty slice, evaluated at any fuel ≥ 1) -/
example (n : Nat) (env : Env) (ins : Bool) (loc le : Loc) (body l : List Stmt) (rt : RT)
    (hx : lookupVal env rt [120] = some (.slice [] false false)) :
    execStmt (recAt (n + 1)) env ins (.rangeS loc none (some (.ident le [120])) body (some l)) rt =
      stmtRes ins ((recAt (n + 1)).execList env l rt) :=
  range_over_empty_runs_else _ env ins loc _ body l rt rt _ false (by rw [evalExpr_ident, hx]) (getRanger_slice _ _ _)

example (n : Nat) (env : Env) (ins : Bool) (loc le : Loc) (body : List Stmt) (rt : RT)
    (hx : lookupVal env rt [120] = some (.slice [] true true)) :
    execStmt (recAt (n + 1)) env ins (.rangeS loc none (some (.ident le [120])) body none) rt =
      .ok (.invalid, .invalid, ins) rt :=
  range_over_empty_without_else_writes_nothing _ env ins loc _ body rt rt _ true (by rw [evalExpr_ident, hx])
    (getRanger_slice _ _ _)

/-- `{{range x}}ab{{else}}z{{end}}` (bytes: x=120 a=97 b=98 z=122; the body is the two text items `a`, `b`)
    with `x` = the three-element slice `[1, 2, 3]`: source spelling to output `ab ab ab`, six literal chunks -/
example (cfg : Parse.Cfg) (path name : Bytes) (b : Parse.PSt) (it0 : Parse.Item) :
    ∃ tree s,
      Parse.textOrAction cfg 1000 (Parse.mkS b (rangeToks .none (atom7 [120]) (textsL [[97], [98]]) ((some [[122]]).map textsL) ++ []) it0 0) =
        .ok tree (Parse.mkS b [] rd 0) ∧
      eraseR path tree = some s ∧
      ∀ (env : Env) (blocks : List (Bytes × BlockN)) (data : Val) (m : Nat),
        execute (m + 2) env (tmplOf name blocks s) [([120], .slice [.int 1, .int 2, .int 3] false false)] data =
          .ok [litChunk [97], litChunk [98], litChunk [97], litChunk [98], litChunk [97], litChunk [98]] [] := by
  obtain ⟨tree, s, h1, h2, _, h4, _⟩ := parsed_range_renders_body_n_times cfg path name [120] [[97], [98]] (some [[122]])
    1000 b it0 [] (by decide)
  refine ⟨tree, s, h1, h2, ?_⟩
  intro env blocks data m
  exact h4 env blocks _ data (.int 1) [.int 2, .int 3] false false m
    (by simp [identVal, alookup, Val.indirectEface]) (by decide)

/-- the same template with `x` = an empty `[]interface{}`: the else text `z`, once -/
example (path name : Bytes) (env : Env) (blocks : List (Bytes × BlockN)) (data : Val) (m : Nat) :
    execute (m + 2) env (tmplOf name blocks (rangeStmt0 path [120] [[97], [98]] (some [[122]])))
      [([120], .slice [] true false)] data = .ok [litChunk [122]] [] :=
  execute_tmplOf (m + 1) env name blocks _ _ data _
    (run_rangeStmt0 m env path [120] [[97], [98]] (some [[122]]) _ (.slice [] true false) [] true
      (by simp [lookupVal_initRT, identVal, alookup, Val.indirectEface]) (getRanger_slice _ _ _) (by decide))

/-- … and without `{{else}}`: nothing at all is written -/
example (path name : Bytes) (env : Env) (blocks : List (Bytes × BlockN)) (data : Val) (m : Nat) :
    execute (m + 2) env (tmplOf name blocks (rangeStmt0 path [120] [[97], [98]] none))
      [([120], .slice [] true false)] data = .ok [] [] :=
  execute_tmplOf (m + 1) env name blocks _ _ data _
    (run_rangeStmt0 m env path [120] [[97], [98]] none _ (.slice [] true false) [] true
      (by simp [lookupVal_initRT, identVal, alookup, Val.indirectEface]) (getRanger_slice _ _ _) (by decide))

/-- `{{range i, v := x}}ab{{end}}` (i=105, v=118) with `x` = `[]interface{}{"p", nil}`: `ab` twice -/
example (path name : Bytes) (env : Env) (blocks : List (Bytes × BlockN)) (data : Val) (m : Nat) :
    execute (m + 2) env (tmplOf name blocks (rangeStmt2 path [105] [118] [120] [[97], [98]] none))
      [([120], .slice [.str [112], .invalid] true false)] data =
      .ok [litChunk [97], litChunk [98], litChunk [97], litChunk [98]] [] := by
  obtain ⟨rt', h1, h2, h3⟩ := run_rangeStmt2_init m env path [105] [118] [120] [[97], [98]] none
    (tmplOf name blocks (rangeStmt2 path [105] [118] [120] [[97], [98]] none))
    [([120], .slice [.str [112], .invalid] true false)] data (.slice [.str [112], .invalid] true false) _ true
    (by simp [identVal, alookup, Val.indirectEface]) (getRanger_slice _ _ _) (by decide)
  exact execute_tmplOf_sink (m + 1) env name blocks _ _ data _ _ rt' h1 h2 h3

end examples

end JetVerif.Props.C05R
