/-
  C19 — Bundled loaders honour the Loader contract and their path semantics.
-/
import JetVerif.Model.Loaders
import JetVerif.Lemmas.Path

namespace JetVerif.Props.C19
open JetVerif.Loaders JetVerif.Path

theorem alookup_removeKey (k k' : Bytes) (l : List (Bytes × Bytes)) :
    alookup k (removeKey k' l) = if k' = k then none else alookup k l := by
  induction l with
  | nil => simp [removeKey, alookup]
  | cons e es ih =>
    obtain ⟨ek, ev⟩ := e
    by_cases hk : ek = k'
    · subst hk
      by_cases h : ek = k
      · subst h; simp [removeKey, ih]
      · simp [removeKey, alookup, ih, h]
    · by_cases h : ek = k
      · subst h; simp [removeKey, alookup, hk, Ne.symm hk]
      · simp [removeKey, alookup, hk, ih, h]

/-- **Exists ⇒ Open** for the in-memory loader, in every reachable state -/
theorem inmem_lawful (l : InMem) : l.toLoader.Lawful := by
  intro p h
  exact h

/-- **Open yields exactly what was stored**: after `Set(p, c)`, any spelling `q` that normalises
    to the same clean absolute path opens `c` and exists -/
theorem inmem_set_then_open (l : InMem) (p q c : Bytes) (h : normalize q = normalize p) :
    (l.set p c).open_ q = some c ∧ (l.set p c).exists_ q = true := by
  simp [InMem.set, InMem.open_, InMem.exists_, h, alookup]

/-- a `Set` under one path does not disturb entries under a different normal form -/
theorem inmem_set_other (l : InMem) (p q c : Bytes) (h : normalize q ≠ normalize p) :
    (l.set p c).open_ q = l.open_ q := by
  have h' : ¬ (normalize p = normalize q) := fun e => h e.symm
  simp [InMem.set, InMem.open_, alookup, h', alookup_removeKey]

/-- **Delete removes the entry under every spelling** of the same normal form, and only that one -/
theorem inmem_delete (l : InMem) (p q : Bytes) (h : normalize q = normalize p) :
    (l.delete p).exists_ q = false ∧ (l.delete p).open_ q = none := by
  simp [InMem.delete, InMem.exists_, InMem.open_, h, alookup_removeKey]

theorem inmem_delete_other (l : InMem) (p q : Bytes) (h : normalize q ≠ normalize p) :
    (l.delete p).open_ q = l.open_ q := by
  simp [InMem.delete, InMem.open_, alookup_removeKey, Ne.symm h]

/-- **all spellings with one normal form are one entry**, across any history of Set/Delete -/
theorem inmem_spelling_independent (ops : List Op) (p q : Bytes) (h : normalize p = normalize q) :
    (InMem.run ops).exists_ p = (InMem.run ops).exists_ q ∧ (InMem.run ops).open_ p = (InMem.run ops).open_ q := by
  simp [InMem.exists_, InMem.open_, h]

/-- the keys of the in-memory loader are canonical paths (C15) -/
theorem inmem_keys_canonical (p : Bytes) : IsCanon (normalize p) := join_root_canon p

/-- **Multi answers from the first loader that has the path**: if loaders before `l` do not open
    `p` and `l` does, `Multi.Open(p)` is `l.Open(p)` -/
theorem multi_first_wins (pre post : List Loader) (l : Loader) (p : Bytes)
    (hpre : ∀ x ∈ pre, x.open_ p = none) (hl : (l.open_ p).isSome = true) :
    multiOpen (pre ++ l :: post) p = l.open_ p := by
  obtain ⟨c, hc⟩ := Option.isSome_iff_exists.mp hl
  rw [multiOpen, List.findSome?_append, List.findSome?_eq_none_iff.mpr hpre, List.findSome?_cons, hc]
  rfl

/-- **Multi keeps the contract**: if every stacked loader is lawful, so is the stack -/
theorem multi_lawful (ls : List Loader) (h : ∀ l ∈ ls, l.Lawful) : (multi ls).Lawful := by
  intro p hp
  obtain ⟨l, hl, he⟩ := List.any_eq_true.mp hp
  exact List.findSome?_isSome_iff.mpr ⟨l, hl, h l hl p he⟩

/-- `Multi.Exists(p)` iff some stacked loader has `p` -/
theorem multi_exists_iff (ls : List Loader) (p : Bytes) :
    multiExists ls p = true ↔ ∃ l ∈ ls, l.exists_ p = true := by
  simp [multiExists, List.any_eq_true]

/-- a directory-rooted loader reports exactly the regular files of its tree and opens their bytes -/
theorem fs_lawful (files : List (Bytes × Bytes)) : (fsLoader files).Lawful := by
  intro p h; exact h

theorem fs_exists_iff_file (files : List (Bytes × Bytes)) (p : Bytes) :
    (fsLoader files).exists_ p = true ↔ ∃ c, (fsLoader files).open_ p = some c := by
  simp [fsLoader, Option.isSome_iff_exists]

end JetVerif.Props.C19
