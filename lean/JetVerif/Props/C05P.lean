/-
  C05, the structure part: the control-structure productions of parse.go (`textOrAction`, `action`,
  `parseControl` behind `if` / `range`, `elseControl`, `itemList`; modelled production by production in
  Model/Parse.lean and compared with the real parser tree by tree on every run, stream `parsetree`)
  map every derivation of the documented statement grammar (Model/StmtGrammar.lean) to the promised tree:

    an if / else if / else chain is the nested branch structure with every body under its own
    condition, in order; `else if` is an else list whose only node is the next `if` of the chain, and
    ONE `{{end}}` closes all of it; `range … else … end` keeps its variables, its expression, its body
    and its else list; bodies nest to any depth.

  For all derivations (statements: text, `{{e}}`, if chains, range with none / one / two variables, any
  nesting), all fuels above a bound linear in the size, all parser states whose next item is the first
  item of the spelling, and whatever follows the statement.  The spelling is the canonical one of
  Model/StmtGrammar.lean; items sit at position 0, so every node is on line 1 and the statement is about
  structure only (lines are C12L's and the correspondence's).  Embedded expressions are the derivations
  of the expression grammar (Props/C04P.lean).
-/
import JetVerif.Lemmas.StmtLadder

namespace JetVerif.Props.C05P
open JetVerif JetVerif.Parse JetVerif.ExprGrammar JetVerif.StmtGrammar

/-- **A statement is read as one derivation**: from any state about to read its spelling, `textOrAction`
    returns the promised tree and stops right behind the statement, whatever follows. -/
theorem statement_reads_one_derivation (cfg : Cfg) (s : S) (n : Nat) (b : PSt) (x : Item) (rest : List Item)
    (hn : n ≥ 10 * sizeS s) :
    textOrAction cfg n (mkS b (toksS s ++ rest) x 0) = .ok (treeS s) (mkS b rest (lastS s) 0) :=
  stmtS cfg s n _ b rest hn (starts_fresh b x ((headS s).append rest).good)

/-- the same when the first item has been looked at and pushed back (`t.peekNonSpace()` in `itemList`,
    `t.peek()` in `parseTemplate`: that is how `textOrAction` is always called) -/
theorem statement_after_peek (cfg : Cfg) (s : S) (n : Nat) (b : PSt) (t : Item) (ts rest : List Item)
    (hn : n ≥ 10 * sizeS s) (hl : toksS s ++ rest = t :: ts) :
    textOrAction cfg n (mkS b ts t 1) = .ok (treeS s) (mkS b rest (lastS s) 0) :=
  stmtS cfg s n _ b rest hn (((headS s).append rest).good.starts_pushed b hl)

/-- **A body is read statement by statement up to its `{{end}}`**: `itemList` returns the trees of the
    statements, in order, and the end marker, and stops behind the `{{end}}`. -/
theorem body_reads_its_statements (cfg : Cfg) (l : L) (n : Nat) (b : PSt) (x : Item) (rest : List Item)
    (hn : n ≥ 10 * sizeL l + 4) :
    itemList cfg n [.end_] (mkS b (toksL l ++ (endToks ++ rest)) x 0) = .ok (1, treeL l, .endM) (mkS b rest rd 0) := by
  obtain ⟨m, rfl⟩ : ∃ m, n = m + 1 := ⟨n - 1, by omega⟩
  exact itemList_close cfg l (listL cfg l) m [.end_] _ b _ _ _ (by omega) (peeks_fresh b x (headL l _).good)
    (fun k => action_end cfg k b ld rest) (by simp [PStmt.marker]) (by decide)

/-- … and up to an `{{else}}` when the list is the body of an `if` or a `range` -/
theorem body_stops_at_else (cfg : Cfg) (l : L) (n : Nat) (b : PSt) (x : Item) (rest : List Item)
    (hn : n ≥ 10 * sizeL l + 4) :
    itemList cfg n [.else_, .end_] (mkS b (toksL l ++ ld :: kElse :: rd :: rest) x 0) =
      .ok (1, treeL l, .elseM 1) (mkS b rest rd 0) := by
  obtain ⟨m, rfl⟩ : ∃ m, n = m + 1 := ⟨n - 1, by omega⟩
  exact itemList_close cfg l (listL cfg l) m [.else_, .end_] _ b _ _ _ (by omega) (peeks_fresh b x (headL l _).good)
    (fun k => action_else cfg k b ld rest) (by simp [PStmt.marker]) (by decide)

/-- **The top-level loop reads the statements up to the end of the template**: `parseTemplate`'s loop
    (`for t.peek().typ != itemEOF`) returns the trees of the statements in order.  (The `extends` / `import`
    prologue in front of it is not part of this statement.) -/
theorem template_body_reads_its_statements (cfg : Cfg) (l : L) (fuel k : Nat) (acc : List PStmt) (b : PSt) (x : Item)
    (hf : fuel ≥ 10 * sizeL l) (hk : k ≥ lenL l + 1) :
    bodyLoop cfg fuel k acc (mkS b (toksL l ++ [eofI]) x 0) = .ok (acc ++ treeL l) (mkS b [] eofI 1) := by
  obtain ⟨m, rfl⟩ : ∃ m, k = m + 1 := ⟨k - 1, by omega⟩
  rw [bodyLoop]
  match l with
  | .nil => simp [toksL, treeL, bind_apply]
  | .cons s l =>
    simp only [sizeL] at hf
    simp only [lenL] at hk
    obtain ⟨t, ts, hts, h0, hty⟩ := headS s
    have heof : t.typ ≠ Tok.eof := by rcases hty with h | h <;> simp [h]
    have hx := statement_after_peek cfg s fuel b t (ts ++ (toksL l ++ [eofI])) (toksL l ++ [eofI])
      (by omega) (by rw [hts]; rfl)
    have ih := template_body_reads_its_statements cfg l fuel m (acc ++ [treeS s]) b (lastS s)
      (by omega) (by omega)
    simp only [toksL, List.append_assoc, hts, List.cons_append]
    simp [bind_apply, h0, heof, hx, marker_treeS, ih, treeL]

/-! ### if / else if / else chains -/

/-- the continuation of a chain: the `else if` clauses in order, then the optional final `else` -/
def elseChain : List (E7 × L) → Option L → Else
  | [], none => .none
  | [], some l => .els l
  | (c, t) :: more, fin => .elseIf c t (elseChain more fin)

/-- `{{if c}} t {{else if c₁}} t₁ … {{else if cₖ}} tₖ [{{else}} fin] {{end}}` -/
def ifChain (c : E7) (t : L) (more : List (E7 × L)) (fin : Option L) : S := .ifS c t (elseChain more fin)

/-- how the chain is spelled: the clauses one after the other and ONE `{{end}}` -/
def chainToks (c : E7) (t : L) (more : List (E7 × L)) (fin : Option L) : List Item :=
  ld :: kIf :: sp :: (toks7 c ++ rd :: toksL t)
    ++ more.flatMap (fun ct => ld :: kElse :: sp :: kIf :: sp :: (toks7 ct.1 ++ rd :: toksL ct.2))
    ++ (match fin with | none => [] | some l => ld :: kElse :: rd :: toksL l)
    ++ [ld, kEnd, rd]

/-- the promised tree: every body under its own condition; each `else if` is the only node of the else
    list of the `if` before it; the final `else` list belongs to the last condition -/
def chainTree (c : E7) (t : L) : List (E7 × L) → Option L → PStmt
  | [], none => .branch true 1 none (some (tree7 c)) 1 (treeL t) none
  | [], some l => .branch true 1 none (some (tree7 c)) 1 (treeL t) (some (1, treeL l))
  | (c', t') :: more, fin => .branch true 1 none (some (tree7 c)) 1 (treeL t) (some (1, [chainTree c' t' more fin]))

theorem toksElse_elseChain (more : List (E7 × L)) (fin : Option L) :
    toksElse (elseChain more fin) =
      more.flatMap (fun ct => ld :: kElse :: sp :: kIf :: sp :: (toks7 ct.1 ++ rd :: toksL ct.2))
        ++ (match fin with | none => [] | some l => ld :: kElse :: rd :: toksL l) ++ [ld, kEnd, rd] := by
  induction more with
  | nil => cases fin <;> simp [elseChain, toksElse, endToks]
  | cons ct more ih => simp [elseChain, toksElse, ih]

theorem toksS_ifChain (c : E7) (t : L) (more : List (E7 × L)) (fin : Option L) :
    toksS (ifChain c t more fin) = chainToks c t more fin := by
  simp [ifChain, toksS, chainToks, toksElse_elseChain]

theorem treeS_ifChain (c : E7) (t : L) (more : List (E7 × L)) (fin : Option L) :
    treeS (ifChain c t more fin) = chainTree c t more fin := by
  induction more generalizing c t with
  | nil => cases fin <;> simp [ifChain, elseChain, treeS, treeElse, chainTree]
  | cons ct more ih =>
    have := ih ct.1 ct.2
    simp only [ifChain, treeS] at this
    simp [ifChain, elseChain, treeS, treeElse, chainTree, this]

def chainSize (c : E7) (t : L) (more : List (E7 × L)) (fin : Option L) : Nat := sizeS (ifChain c t more fin)

/-- **An if / else-if / else chain is parsed as written**: for every chain of conditions and bodies (and
    an optional final else) the tree is the nested branch structure with every body under its own
    condition, in order, and one `{{end}}` closes all of it. -/
theorem if_chain_is_parsed_as_written (cfg : Cfg) (c : E7) (t : L) (more : List (E7 × L)) (fin : Option L)
    (n : Nat) (b : PSt) (x : Item) (rest : List Item) (hn : n ≥ 10 * chainSize c t more fin) :
    textOrAction cfg n (mkS b (chainToks c t more fin ++ rest) x 0) = .ok (chainTree c t more fin) (mkS b rest rd 0) := by
  rw [← toksS_ifChain, ← treeS_ifChain]
  exact statement_reads_one_derivation cfg (ifChain c t more fin) n b x rest hn

/-! ### range -/

def rangeToks (v : RangeVars) (e : E7) (body : L) (els : Option L) : List Item :=
  ld :: kRange :: sp :: (toksV v ++ toks7 e ++ rd :: toksL body)
    ++ (match els with | none => [] | some l => ld :: kElse :: rd :: toksL l)
    ++ [ld, kEnd, rd]

def rangeOf (v : RangeVars) (e : E7) (body : L) (els : Option L) : S :=
  .rangeS v e body (match els with | none => .none | some l => .els l)

/-- **range … else … end is parsed as written**: the node keeps the variables (`k, v :=` as a `Set` whose
    right side is the ranged expression; without variables the expression itself), the body, and the else
    list exactly when there is an `{{else}}`; it is not an `if` (no `else if` is looked for). -/
theorem range_is_parsed_as_written (cfg : Cfg) (v : RangeVars) (e : E7) (body : L) (els : Option L)
    (n : Nat) (b : PSt) (x : Item) (rest : List Item) (hn : n ≥ 10 * sizeS (rangeOf v e body els)) :
    textOrAction cfg n (mkS b (rangeToks v e body els ++ rest) x 0) =
      .ok (.branch false 1 (setV v (tree7 e)) (exprV v (tree7 e)) 1 (treeL body) (els.map fun l => (1, treeL l)))
        (mkS b rest rd 0) := by
  have h := statement_reads_one_derivation cfg (rangeOf v e body els) n b x rest hn
  cases els <;> simpa [rangeOf, rangeToks, toksS, toksR, endToks, treeS, treeR, lastS] using h

/-! ### readable instances (and non-vacuity: the hypotheses are met by concrete derivations) -/

section examples
def v7 (s : String) : E7 := atom7 (str s)
def idt (s : String) : PExpr := .ident 1 (str s)
def txt (s : String) : S := .text (str s)
def one (s : S) : L := .cons s .nil

/-- `{{if a}}x{{else if b}}y{{else}}z{{end}}` -/
def ex_chain : S := ifChain (v7 "a") (one (txt "x")) [(v7 "b", one (txt "y"))] (some (one (txt "z")))

example : (toksS ex_chain).map (·.typ) =
    [Tok.leftDelim, Tok.if_, Tok.space, Tok.identifier, Tok.rightDelim, Tok.text,
     Tok.leftDelim, Tok.else_, Tok.space, Tok.if_, Tok.space, Tok.identifier, Tok.rightDelim, Tok.text,
     Tok.leftDelim, Tok.else_, Tok.rightDelim, Tok.text,
     Tok.leftDelim, Tok.end_, Tok.rightDelim] := rfl

/-- `y` is under `b`, `z` is the else of `b` (not of `a`), and the `if b` is the only node of `a`'s else list -/
example : treeS ex_chain =
    .branch true 1 none (some (idt "a")) 1 [.text 1 (str "x")]
      (some (1, [.branch true 1 none (some (idt "b")) 1 [.text 1 (str "y")]
        (some (1, [.text 1 (str "z")]))])) := rfl

/-- the theorem applied: the parser model on the chain followed by more text -/
example (cfg : Cfg) (b : PSt) (x : Item) :
    textOrAction cfg 400 (mkS b (toksS ex_chain ++ [it Tok.text (str "more")]) x 0) =
      .ok (.branch true 1 none (some (idt "a")) 1 [.text 1 (str "x")]
        (some (1, [.branch true 1 none (some (idt "b")) 1 [.text 1 (str "y")]
          (some (1, [.text 1 (str "z")]))]))) (mkS b [it Tok.text (str "more")] rd 0) :=
  statement_reads_one_derivation cfg ex_chain 400 b x _ (by decide)

/-- `{{if a}}{{if b}}x{{end}}{{else}}y{{end}}` : the inner `{{end}}` closes the inner `if`, the else is `a`'s -/
def ex_nested : S := .ifS (v7 "a") (one (.ifS (v7 "b") (one (txt "x")) .none)) (.els (one (txt "y")))
example : treeS ex_nested =
    .branch true 1 none (some (idt "a")) 1 [.branch true 1 none (some (idt "b")) 1 [.text 1 (str "x")] none]
      (some (1, [.text 1 (str "y")])) := rfl
example (cfg : Cfg) (b : PSt) (x : Item) :
    textOrAction cfg 400 (mkS b (toksS ex_nested) x 0) = .ok (treeS ex_nested) (mkS b [] rd 0) := by
  have h := statement_reads_one_derivation cfg ex_nested 400 b x [] (by decide)
  rw [List.append_nil] at h
  exact h

/-- `{{range k,v:=m}}{{v}}{{else}}none{{end}}` -/
def ex_range : S := rangeOf (.two (str "k") (str "v")) (v7 "m") (one (.print (v7 "v"))) (some (one (txt "none")))

example : (toksS ex_range).map (·.typ) =
    [Tok.leftDelim, Tok.range, Tok.space, Tok.identifier, Tok.comma, Tok.identifier, Tok.assign, Tok.identifier,
     Tok.rightDelim, Tok.leftDelim, Tok.identifier, Tok.rightDelim,
     Tok.leftDelim, Tok.else_, Tok.rightDelim, Tok.text, Tok.leftDelim, Tok.end_, Tok.rightDelim] := rfl

example : treeS ex_range =
    .branch false 1
      (some { line := 1, isLet := true, lookup := false, left := [idt "k", idt "v"], right := [idt "m"] }) none
      1 [printTree (idt "v")] (some (1, [.text 1 (str "none")])) := rfl

example (cfg : Cfg) (b : PSt) (x : Item) :
    textOrAction cfg 600 (mkS b (rangeToks (.two (str "k") (str "v")) (v7 "m") (one (.print (v7 "v"))) (some (one (txt "none"))) ++ []) x 0) =
      .ok (.branch false 1
        (some { line := 1, isLet := true, lookup := false, left := [idt "k", idt "v"], right := [idt "m"] }) none
        1 [printTree (idt "v")] (some (1, [.text 1 (str "none")]))) (mkS b [] rd 0) :=
  range_is_parsed_as_written cfg _ _ _ _ 600 b x [] (by decide)

/-- a whole template body: `pre{{if a}}x{{else if b}}y{{else}}z{{end}}post` up to the end of the input -/
example (cfg : Cfg) (b : PSt) (x : Item) :
    bodyLoop cfg 500 10 [] (mkS b (toksL (.cons (txt "pre") (.cons ex_chain (one (txt "post")))) ++ [eofI]) x 0) =
      .ok [.text 1 (str "pre"), treeS ex_chain, .text 1 (str "post")] (mkS b [] eofI 1) :=
  template_body_reads_its_statements cfg _ 500 10 [] b x (by decide) (by decide)

/- The canonical spelling is what the lexer model emits for these sources (item types and values; the real
   positions are not 0): with `lexed src := (itemsOf evs).map (typ, val)` for `Lex.lexRun defaultDelims src`,
   `#eval lexed "{{if a}}x{{else if b}}y{{else}}z{{end}}" == (toksS ex_chain ++ [eofI]).map (typ, val)` and the
   same for `ex_nested` (`{{if a}}{{if b}}x{{end}}{{else}}y{{end}}`) and `ex_range`
   (`{{range k,v:=m}}{{v}}{{else}}none{{end}}`) print `true` (the lexer does not reduce in the kernel, so this
   is a run, not a theorem). -/

/-- a chain with an embedded compound condition: `{{if a+b*c}}x{{end}}` keeps the expression's grouping -/
def ex_cond : S := ifChain C04P.e_add_mul (one (txt "x")) [] none
example : treeS ex_cond =
    .branch true 1 none
      (some (.binary .add 1 Tok.add (some (idt "a")) (.binary .mul 1 Tok.mul (some (idt "b")) (idt "c"))))
      1 [.text 1 (str "x")] none := rfl
end examples

end JetVerif.Props.C05P
