/-
  C01 — Every value an action renders is escaped exactly once; only SafeWriters bypass.

  Model: `printEscaped` / `printSafe` / `writeLit` (JetVerif/Model/Eval.lean), `htmlEscape`,
  `printValue` (JetVerif/Model/Val.lean).  The plumbing part ("what is buffered by try re-enters the
  outer destination unchanged", "exec discards") is C13.success_copies_buffer / C09.
-/
import JetVerif.Lemmas.EvalEqns

namespace JetVerif.Props.C01
open JetVerif JetVerif.Eval

/-- the default escaper is a byte-wise homomorphism, so escaping a string in 4096-byte chunks (as
    fastprinter writes it) equals escaping the whole string -/
theorem htmlEscape_eq (s : Bytes) : htmlEscape s = s.flatMap htmlEscapeByte := by
  induction s with
  | nil => rfl
  | cons c cs ih => rw [htmlEscape, ih, List.flatMap_cons]

theorem htmlEscape_append (a b : Bytes) : htmlEscape (a ++ b) = htmlEscape a ++ htmlEscape b := by
  simp only [htmlEscape_eq, List.flatMap_append]

theorem htmlEscape_flatten (chunks : List Bytes) :
    htmlEscape chunks.flatten = (chunks.map htmlEscape).flatten := by
  induction chunks with
  | nil => rfl
  | cons c cs ih => rw [List.flatten_cons, htmlEscape_append, ih, List.map_cons, List.flatten_cons]

theorem htmlEscapeByte_no_raw_special (x : UInt8) :
    ∀ c ∈ htmlEscapeByte x, c ≠ 60 ∧ c ≠ 62 ∧ c ≠ 39 ∧ c ≠ 34 ∧ c ≠ 0 := by
  -- none of the six replacement strings holds one of these bytes; a byte that is kept is none of them
  have ents : ∀ e ∈ [entQuot, entApos, entAmp, entLt, entGt, replacementChar],
      ∀ c ∈ e, c ≠ 60 ∧ c ≠ 62 ∧ c ≠ 39 ∧ c ≠ 34 ∧ c ≠ 0 := by decide +kernel
  unfold htmlEscapeByte
  -- `by_cases`, not `split`: `split` on the byte conditions is slow to check
  by_cases h34 : x = 34
  · rw [if_pos h34]; exact ents _ (by simp)
  rw [if_neg h34]
  by_cases h39 : x = 39
  · rw [if_pos h39]; exact ents _ (by simp)
  rw [if_neg h39]
  by_cases h38 : x = 38
  · rw [if_pos h38]; exact ents _ (by simp)
  rw [if_neg h38]
  by_cases h60 : x = 60
  · rw [if_pos h60]; exact ents _ (by simp)
  rw [if_neg h60]
  by_cases h62 : x = 62
  · rw [if_pos h62]; exact ents _ (by simp)
  rw [if_neg h62]
  by_cases h0 : x = 0
  · rw [if_pos h0]; exact ents _ (by simp)
  rw [if_neg h0]
  intro c hc
  obtain rfl := List.mem_singleton.mp hc
  exact ⟨h60, h62, h39, h34, h0⟩

/-- **No raw special byte survives the default escaper**: the output never contains `<`, `>`, `'`,
    `"` or NUL, whatever the input. -/
theorem htmlEscape_no_raw_special (s : Bytes) :
    ∀ c ∈ htmlEscape s, c ≠ 60 ∧ c ≠ 62 ∧ c ≠ 39 ∧ c ≠ 34 ∧ c ≠ 0 := by
  intro c hc
  rw [htmlEscape_eq] at hc
  obtain ⟨x, _, hx⟩ := List.mem_flatMap.mp hc
  exact htmlEscapeByte_no_raw_special x c hx

/-- bytes that need no escaping pass through unchanged: nothing is escaped twice unless the data
    itself contained an entity's `&` -/
theorem htmlEscape_plain (s : Bytes) (h : ∀ c ∈ s, c ≠ 34 ∧ c ≠ 39 ∧ c ≠ 38 ∧ c ≠ 60 ∧ c ≠ 62 ∧ c ≠ 0) :
    htmlEscape s = s := by
  induction s with
  | nil => simp [htmlEscape]
  | cons x xs ih =>
    have hx := h x (by simp)
    simp [htmlEscape, htmlEscapeByte, hx.1, hx.2.1, hx.2.2.1, hx.2.2.2.1, hx.2.2.2.2.1, hx.2.2.2.2.2]
    exact ih (fun c hc => h c (by simp [hc]))

/-- **An action that prints a value writes exactly the Set's escaper applied once to each write of
    the printed form** (to the current destination, after what was there), and nothing else. -/
theorem printed_value_is_escaped_once (env : Env) (esc : String) (v : Val) (pieces escaped : List Piece)
    (rt : RT) (k : Nat) (hesc : env.escapee = some esc) (hp : printValue v = some pieces)
    (he : pieces.mapM (escapePiece esc) = some escaped) (hk : rt.writer.idx = some k) :
    ∃ rt', printEscaped env v rt = .ok () rt' ∧
      rt'.sink k = (escaped.map fun p => ({ tag := .esc, piece := p } : Chunk)).reverse ++ rt.sink k :=
  ⟨_, by simp [printEscaped, hp, hesc, he], appendTo_sink_cur rt _ k hk⟩

/-- with `WithSafeWriter(nil)` the printed form is written as is -/
theorem printed_value_raw_when_no_escaper (env : Env) (v : Val) (pieces : List Piece) (rt : RT) (k : Nat)
    (hesc : env.escapee = none) (hp : printValue v = some pieces) (hk : rt.writer.idx = some k) :
    ∃ rt', printEscaped env v rt = .ok () rt' ∧
      rt'.sink k = (pieces.map fun p => ({ tag := .raw, piece := p } : Chunk)).reverse ++ rt.sink k :=
  ⟨_, by simp [printEscaped, hp, hesc], appendTo_sink_cur rt _ k hk⟩

/-- **A SafeWriter applies its own escaping instead** (not in addition): its writes go to the
    current destination directly, not through the Set's escaper. -/
theorem safewriter_bypasses_set_escaper (sw : String) (v : Val) (pieces escaped : List Piece)
    (rt : RT) (k : Nat) (hv : v.isValid = true) (hp : printValue v = some pieces)
    (he : pieces.mapM (escapePiece sw) = some escaped) (hk : rt.writer.idx = some k) :
    ∃ rt', printSafe sw v rt = .ok () rt' ∧
      rt'.sink k = (escaped.map fun p => ({ tag := .safe sw, piece := p } : Chunk)).reverse ++ rt.sink k :=
  ⟨_, by simp [printSafe, hv, hp, he], appendTo_sink_cur rt _ k hk⟩

/-- **Literal template text is never escaped** -/
theorem literal_text_is_raw (b : Bytes) (rt : RT) (k : Nat) (hk : rt.writer.idx = some k) :
    ∃ rt', writeLit b rt = .ok () rt' ∧ rt'.sink k = { tag := .lit, piece := .lit b } :: rt.sink k :=
  ⟨_, rfl, appendTo_sink_cur rt _ k hk⟩

/-- the string printer's chunks are the string -/
theorem chunk4096_flatten : ∀ (fuel : Nat) (s : Bytes), s.length / 4096 + 2 ≤ fuel + 1 →
    (chunk4096 fuel s).flatten = s ∨ fuel = 0 := by
  intro fuel
  induction fuel with
  | zero => intro s _; exact .inr rfl
  | succ n ih =>
    intro s hs
    left
    unfold chunk4096
    by_cases h0 : s.isEmpty
    · simp [h0]; exact (List.isEmpty_iff.mp h0)
    · by_cases h1 : s.length ≤ 4096
      · simp [h0, h1]
      · simp only [h0, h1, Bool.false_eq_true, if_false]
        have hlen : (s.drop 4096).length / 4096 + 2 ≤ n + 1 := by
          simp only [List.length_drop]
          omega
        rcases ih (s.drop 4096) hlen with h | h
        · simp [h]
        · subst h
          simp only [List.length_drop] at hlen
          omega

/-- non-vacuity: the D-example value `<a&'">` under the default escaper -/
example : htmlEscape [60, 97, 38, 39, 34, 62] = entLt ++ [97] ++ entAmp ++ entApos ++ entQuot ++ entGt := by
  decide +kernel

end JetVerif.Props.C01
