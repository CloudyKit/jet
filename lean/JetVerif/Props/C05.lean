/-
  C05 — if renders exactly one branch; range runs once per element, else iff empty.
-/
import JetVerif.Lemmas.EvalInv

namespace JetVerif.Props.C05
open JetVerif JetVerif.Eval

/-- **Truthiness**: exactly `false`, zero numbers, the empty string and nil are falsy (nil = an
    invalid value, a nil pointer / map / slice / interface). -/
theorem truthy_bool (b : Bool) : Val.isTrue (.bool b) = some b := by
  cases b <;> simp [Val.isTrue, Val.isValid, Val.isZero, Val.isZeroD]
theorem truthy_int (i : Int) : Val.isTrue (.int i) = some (i != 0) := by
  simp [Val.isTrue, Val.isValid, Val.isZero, Val.isZeroD, bne]
theorem truthy_uint (u : Nat) : Val.isTrue (.uint u) = some (u != 0) := by
  simp [Val.isTrue, Val.isValid, Val.isZero, Val.isZeroD, bne]
theorem truthy_str (s : Bytes) : Val.isTrue (.str s) = some (!s.isEmpty) := rfl
theorem falsy_nil : Val.isTrue .invalid = some false := rfl
theorem falsy_nil_pointer (t : String) : Val.isTrue (.ptr t none) = some false := rfl
theorem falsy_nil_interface : Val.isTrue (.iface .invalid) = some false := rfl
theorem falsy_nil_map (es : List (Bytes × Val)) (i : Bool) : Val.isTrue (.smap es i true) = some false := rfl
theorem falsy_nil_slice (es : List Val) (i : Bool) : Val.isTrue (.slice es i true) = some false := rfl
theorem truthy_nonnil_pointer (t : String) (v : Val) : Val.isTrue (.ptr t (some v)) = some true := rfl
/-- an element of a `[]interface{}` reaches '.' unwrapped (D10), so it is judged by its own value -/
theorem element_unwrapped (v : Val) (h : v ≠ .invalid) : Val.indirectEface (.iface v) = v := by
  cases v <;> simp_all [Val.indirectEface]

/-- once the condition has a truth value, `ifBranches` is the list that value selects -/
theorem if_runs_the_selected_list (r : Rec) (env : Env) (c : Expr) (t : List Stmt) (e : Option (List Stmt))
    (rt rt1 : RT) (cv : Val) (b : Bool) (hc : r.evalExpr env c rt = .ok cv rt1) (ht : Val.isTrue cv = some b) :
    ifBranches r env c t e rt =
      (if b then r.execList env t else match e with | some l => r.execList env l | none => pure .invalid) rt1 := by
  unfold ifBranches
  rw [bind_ok hc, ht]
  rfl

/-- **if renders exactly one branch**: the then-list when the condition is truthy … -/
theorem if_truthy_runs_then (r : Rec) (env : Env) (c : Expr) (t : List Stmt) (e : Option (List Stmt))
    (rt rt1 : RT) (cv : Val) (hc : r.evalExpr env c rt = .ok cv rt1) (ht : Val.isTrue cv = some true) :
    ifBranches r env c t e rt = r.execList env t rt1 :=
  if_runs_the_selected_list r env c t e rt rt1 cv true hc ht

/-- … the else-list when it is falsy and there is one … -/
theorem if_falsy_runs_else (r : Rec) (env : Env) (c : Expr) (t l : List Stmt)
    (rt rt1 : RT) (cv : Val) (hc : r.evalExpr env c rt = .ok cv rt1) (ht : Val.isTrue cv = some false) :
    ifBranches r env c t (some l) rt = r.execList env l rt1 :=
  if_runs_the_selected_list r env c t (some l) rt rt1 cv false hc ht

/-- … and nothing at all otherwise. -/
theorem if_falsy_no_else_runs_nothing (r : Rec) (env : Env) (c : Expr) (t : List Stmt)
    (rt rt1 : RT) (cv : Val) (hc : r.evalExpr env c rt = .ok cv rt1) (ht : Val.isTrue cv = some false) :
    ifBranches r env c t none rt = .ok .invalid rt1 :=
  if_runs_the_selected_list r env c t none rt rt1 cv false hc ht

def drain : Nat → RangerSt → List (Val × Val)
  | 0, _ => []
  | f + 1, st =>
    match rangerNext st with
    | ((idx, val, fin), st') => if fin then [] else (idx, val) :: drain f st'

/-- **A slice ranger yields every element once, in order, with indices 0,1,…** -/
theorem slice_ranger_in_order (es : List Val) : ∀ (i : Nat) (f : Nat), es.length < f →
    drain f (.sliceR es i false) = ((List.range es.length).zip es).map (fun p => (Val.int ((i + p.1 : Nat) : Int), p.2)) := by
  induction es with
  | nil => intro i f hf; cases f with
    | zero => simp at hf
    | succ f => simp [drain, rangerNext]
  | cons x xs ih =>
    intro i f hf
    cases f with
    | zero => simp at hf
    | succ f =>
      simp only [drain, rangerNext]
      simp only [Bool.false_eq_true, if_false]
      rw [ih (i + 1) f (by simp at hf; omega)]
      simp only [List.length_cons, List.range_succ_eq_map, List.zip_cons_cons, List.map_cons]
      congr 1
      rw [List.zip_map_left, List.map_map]
      apply List.map_congr_left
      intro p _
      simp only [Function.comp, Prod.map, id]
      congr 2
      simp only [Nat.succ_eq_add_one]
      omega

/-- `ints(a, b)` yields a, a+1, …, b-1 with indices 0, 1, … -/
theorem ints_ranger_first (a b : Int) (h : a ≠ b) :
    rangerNext (.intsR (-1) (a - 1) b) = ((.int 0, .int a, false), .intsR 0 a b) := by
  have h1 : a - 1 + 1 = a := by omega
  simp [rangerNext, h1, h]

theorem ints_ranger_last (i a b : Int) (h : a + 1 = b) :
    (rangerNext (.intsR i a b)).1 = (.int (i + 1), .int (a + 1), true) := by
  simp [rangerNext, h]

/-- the end of a slice ranger: the else-list (or nothing) if no element was seen, nothing otherwise -/
theorem range_end (r : Rec) (env : Env) (set : Option SetN) (ks vs : Option Nat) (body : List Stmt)
    (els : Option (List Stmt)) (f : Nat) (i : Nat) (ifc first : Bool) (rt : RT) :
    rangeLoop r env set ks vs body els (f + 1) (.sliceR [] i ifc) first rt =
      (if first then match els with | some l => r.execList env l | none => pure .invalid else pure .invalid) rt := rfl

/-- **else iff empty**: a ranger without elements runs the else-list (or nothing) … -/
theorem range_empty_runs_else (r : Rec) (env : Env) (set : Option SetN) (ks vs : Option Nat)
    (body l : List Stmt) (f : Nat) (i : Nat) (ifc : Bool) (rt : RT) :
    rangeLoop r env set ks vs body (some l) (f + 1) (.sliceR [] i ifc) true rt = r.execList env l rt :=
  range_end r env set ks vs body (some l) f i ifc true rt

theorem range_empty_no_else (r : Rec) (env : Env) (set : Option SetN) (ks vs : Option Nat)
    (body : List Stmt) (f : Nat) (i : Nat) (ifc : Bool) (rt : RT) :
    rangeLoop r env set ks vs body none (f + 1) (.sliceR [] i ifc) true rt = .ok .invalid rt :=
  range_end r env set ks vs body none f i ifc true rt

/-- … and once at least one element was seen, the else-list is not run when the ranger ends -/
theorem range_end_after_elements_skips_else (r : Rec) (env : Env) (set : Option SetN) (ks vs : Option Nat)
    (body : List Stmt) (els : Option (List Stmt)) (f : Nat) (i : Nat) (ifc : Bool) (rt : RT) :
    rangeLoop r env set ks vs body els (f + 1) (.sliceR [] i ifc) false rt = .ok .invalid rt :=
  range_end r env set ks vs body els f i ifc false rt

/-- `withCtxND` puts the previous '.' back when its body returns, whatever the body is -/
theorem withCtxND_ok {α} {v : Val} {body : M α} {rt rt' : RT} {a : α} (h : withCtxND v body rt = .ok a rt') :
    rt'.ctx = rt.ctx := by
  unfold withCtxND at h
  split at h
  · cases h
    rfl
  · rename_i hne
    exact absurd h (hne _ _)

/-- zero-variable form: '.' is the element for the body, and the previous '.' afterwards -/
theorem range_body_context (v : Val) (body : M Val) (hb : Good body) (rt rt' : RT) (x : Val) (hwf : WF rt)
    (h : withCtxND v body rt = .ok x rt') : rt'.ctx = rt.ctx :=
  withCtxND_ok h

end JetVerif.Props.C05
