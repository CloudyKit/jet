/-
  The log discipline of the lexer model (Model/Lex.lean), for every input, every delimiter record and
  every execution (including those that end in an error item or a crash):

    * the event log is a chain: every emit / ignore event starts exactly where the previous one
      ended (the first at offset 0), and `start` is the end of the latest one;
    * the value of every emitted token is the verbatim slice `input[a:b]` of the source, with
      0 ≤ a ≤ b ≤ len(input);
    * the end-of-file item is sent at one place, `lexTextLoop.lexTextEnd`, directly followed by
      `pure none` (the machine stops), so it can only be the newest event of a finished run.

  So the bytes of the input up to `start` are partitioned, in order, into token values and ignored
  ranges: the lexer adds nothing and reorders nothing.

  The log, `start` and the input are written by `emit`, `ignore` and `errorf` only.  One lemma per function
  says that it keeps the discipline (`Logs m`: `m` keeps the invariant `Log`; `LogsS m` for a state function,
  which may stop the machine and then leaves `Stopped`); the loops by induction on their fuel.  A proof is
  the function unfolded and `log_tac [callees]`, which tries the rules of the primitives, the lemmas of the
  callees given to it and a case split, over and over; where a branch needs a fact of its own (the token tables
  in `logs_lexInsideAction`, the keyword item in `logs_lexIdentifierLoop`) it is supplied by hand.
-/
import JetVerif.Lemmas.LexSafe
import JetVerif.Lemmas.LexTokens

namespace JetVerif.Lex
open JetVerif.Utf8

/-- end offset of the most recent emit / ignore event (events are stored most recent first) -/
def evEnd : List Event → Int
  | [] => 0
  | .emit _ _ b _ :: _ => b
  | .ignore _ _ b :: _ => b
  | .err _ _ :: rest => evEnd rest

def Chain (input : Bytes) : List Event → Prop
  | [] => True
  | .emit _ a b v :: rest => a = evEnd rest ∧ slice input a b = some v ∧ Chain input rest
  | .ignore _ a _ :: rest => a = evEnd rest ∧ Chain input rest
  | .err _ _ :: rest => Chain input rest

def NoEof (evs : List Event) : Prop := ∀ e ∈ evs, ∀ a b v, e ≠ Event.emit Tok.eof a b v

theorem NoEof.tail {l : List Event} (h : NoEof l) : NoEof l.tail :=
  fun e he => h e (List.mem_of_mem_tail he)

theorem NoEof.cons {e : Event} {l : List Event} (he : ∀ a b v, e ≠ Event.emit Tok.eof a b v)
    (h : NoEof l) : NoEof (e :: l) := List.forall_mem_cons.mpr ⟨he, h⟩

/-- the discipline while the machine runs on the source `inp` -/
structure Log (inp : Bytes) (s : St) : Prop where
  input : s.input = inp
  chain : Chain inp s.events
  start : s.start = evEnd s.events
  noEof : NoEof s.events

/-- what is left of it once the machine has stopped: the newest event may be the end-of-file item -/
def Stopped (inp : Bytes) (s : St) : Prop := Chain inp s.events ∧ NoEof s.events.tail

theorem Log.stopped {inp : Bytes} {s : St} (h : Log inp s) : Stopped inp s := ⟨h.chain, h.noEof.tail⟩

def Res.st {α} : Res α → St
  | .ok _ s => s
  | .crash _ s => s

def Logs {α} (m : M α) : Prop := ∀ inp s, Log inp s → Log inp (m s).st

/-- a state function: as `Logs` while the machine goes on -/
def LogsS (m : M (Option StateId)) : Prop := ∀ inp s, Log inp s →
  match m s with
  | .ok (some _) s' => Log inp s'
  | r => Stopped inp r.st

theorem Logs.pure {α} (a : α) : Logs (pure a : M α) := fun _ _ h => h

theorem Logs.bind {α β} {m : M α} {f : α → M β} (hm : Logs m) (hf : ∀ a, Logs (f a)) : Logs (m >>= f) := by
  intro inp s hs
  have h1 := hm inp s hs
  rw [lbind_apply]
  cases hms : m s with
  | ok a s' => rw [hms] at h1; exact hf a inp s' h1
  | crash msg s' => rw [hms] at h1; exact h1

theorem LogsS.of_logs {m : M (Option StateId)} (hm : Logs m) : LogsS m := by
  intro inp s hs
  have h1 := hm inp s hs
  cases hms : m s with
  | ok o s' =>
    rw [hms] at h1
    cases o with
    | none => exact h1.stopped
    | some st => exact h1
  | crash msg s' => rw [hms] at h1; exact h1.stopped

theorem LogsS.bind {α} {m : M α} {f : α → M (Option StateId)} (hm : Logs m) (hf : ∀ a, LogsS (f a)) :
    LogsS (m >>= f) := by
  intro inp s hs
  have h1 := hm inp s hs
  rw [lbind_apply]
  cases hms : m s with
  | ok a s' => rw [hms] at h1; exact hf a inp s' h1
  | crash msg s' => rw [hms] at h1; exact h1.stopped

theorem logs_get : Logs get := fun _ _ h => h
theorem logs_crash {α} (msg : String) : Logs (crash msg : M α) := fun _ _ h => h

theorem logs_modify (f : St → St)
    (hf : ∀ s, (f s).input = s.input ∧ (f s).start = s.start ∧ (f s).events = s.events) :
    Logs (modify f) := by
  intro inp s hs
  obtain ⟨h1, h2, h3⟩ := hf s
  exact ⟨h1.trans hs.input, h3 ▸ hs.chain, (h2.trans hs.start).trans (h3 ▸ rfl), h3 ▸ hs.noEof⟩

theorem logs_restAt (a : Int) : Logs (restAt a) := by
  intro inp s hs
  unfold restAt
  split <;> exact hs

theorem logs_firstByte (b : Bytes) : Logs (firstByte b) := by
  unfold firstByte
  split
  · exact Logs.pure _
  · exact logs_crash _

theorem logs_next : Logs next := by
  intro inp s hs
  unfold next
  split
  · exact ⟨hs.input, hs.chain, hs.start, hs.noEof⟩
  · split
    · exact hs
    · exact ⟨hs.input, hs.chain, hs.start, hs.noEof⟩

theorem logs_backup : Logs backup := logs_modify _ (fun _ => ⟨rfl, rfl, rfl⟩)

theorem logs_emit (t : Tok) (ht : t ≠ Tok.eof) : Logs (emit t) := by
  intro inp s hs
  unfold emit
  split
  · exact hs
  · rename_i v hv
    exact ⟨hs.input, ⟨hs.start, hs.input ▸ hv, hs.chain⟩, rfl, NoEof.cons (fun a b v h => ht (by injection h)) hs.noEof⟩

theorem logs_ignore (k : IgnKind) : Logs (ignore k) := fun _ _ hs =>
  ⟨hs.input, ⟨hs.start, hs.chain⟩, rfl, NoEof.cons (fun a b v h => by cases h) hs.noEof⟩

theorem logs_errorf (msg : String) : Logs (errorf msg) := fun _ _ hs =>
  ⟨hs.input, hs.chain, hs.start, NoEof.cons (fun a b v h => by cases h) hs.noEof⟩

/-- the one place where the end-of-file item is sent: the machine stops at once -/
theorem logsS_emit_eof_stop : LogsS (emit Tok.eof >>= fun _ => (pure none : M (Option StateId))) := by
  intro inp s hs
  rw [lbind_apply]
  unfold emit
  cases hv : slice s.input s.start s.pos with
  | none => exact hs.stopped
  | some v => exact ⟨⟨hs.start, hs.input ▸ hv, hs.chain⟩, hs.noEof⟩

theorem logs_ite {α} {c : Prop} [Decidable c] {a b : M α} (ha : Logs a) (hb : Logs b) :
    Logs (if c then a else b) := by split <;> assumption

macro "log_step" : tactic =>
  `(tactic| first
  | with_reducible (first
    | intro _
    | apply Logs.bind
    | apply logs_ite
    | exact Logs.pure _
    | exact logs_get
    | exact logs_crash _
    | exact logs_restAt _
    | exact logs_firstByte _
    | exact logs_next
    | exact logs_backup
    | exact logs_ignore _
    | exact logs_errorf _
    | exact logs_modify _ (fun _ => ⟨rfl, rfl, rfl⟩))
  | (with_reducible refine logs_emit _ ?_) <;> (first | assumption | decide | skip))

syntax "log_tac" (" [" term,* "]")? : tactic
macro_rules
  | `(tactic| log_tac) => `(tactic| log_tac [])
  | `(tactic| log_tac [$hs,*]) =>
    `(tactic| repeat (first | log_step $[| (with_reducible apply $hs)]* | split | dsimp only))

theorem logs_peek : Logs peek := by unfold peek; log_tac
theorem logs_accept (valid : List Nat) : Logs (accept valid) := by unfold accept; log_tac

theorem logs_acceptRunLoop (valid : List Nat) : ∀ fuel, Logs (acceptRunLoop valid fuel) := by
  intro fuel
  induction fuel with
  | zero => unfold acceptRunLoop; log_tac
  | succ n ih => unfold acceptRunLoop; log_tac [ih]

theorem logs_acceptRun (valid : List Nat) : Logs (acceptRun valid) := by
  have h := logs_acceptRunLoop valid
  unfold acceptRun; log_tac [h]

theorem logs_atRightDelim : Logs atRightDelim := by unfold atRightDelim; log_tac

theorem logs_atTerminator : Logs atTerminator := by
  have h := logs_peek
  unfold atTerminator; log_tac [h]

theorem logs_lexLeftDelim : Logs lexLeftDelim := by unfold lexLeftDelim; log_tac
theorem logs_lexComment : Logs lexComment := by unfold lexComment; log_tac
theorem logs_lexRightDelim : Logs lexRightDelim := by unfold lexRightDelim; log_tac

theorem logs_signArm (excl : List String) (t : Tok) (ht : t ≠ Tok.eof) : Logs (signArm excl t) := by
  have h := logs_peek
  unfold signArm; log_tac [h]

theorem logs_lexInsideAction : Logs lexInsideAction := by
  have h1 := logs_atRightDelim
  have h3 := logs_peek
  unfold lexInsideAction
  apply Logs.bind h1
  intro p
  apply Logs.bind logs_get
  intro s
  apply logs_ite
  · log_tac
  · apply Logs.bind logs_next
    intro r
    cases r with
    | none => exact logs_errorf _
    | some c =>
      apply logs_ite (Logs.pure _)
      apply logs_ite (logs_signArm _ _ minusTok_plain.1)
      apply logs_ite (logs_signArm _ _ plusTok_plain.1)
      cases hst : singleTok c with
      | some t =>
        have ht := (singleTok_plain hst).1
        log_tac
      | none =>
        cases htt : twoTok c with
        | some q =>
          obtain ⟨d, both, single⟩ := q
          obtain ⟨⟨hb, _⟩, t, rfl, ht, _⟩ := twoTok_plain htt
          apply Logs.bind logs_next
          intro r2
          apply logs_ite <;> log_tac
        | none =>
          repeat (first | apply logs_ite | log_step | (with_reducible apply h3))

theorem logs_lexSpaceLoop : ∀ fuel n, Logs (lexSpaceLoop fuel n) := by
  intro fuel
  have hp := logs_peek
  induction fuel with
  | zero => intro n; unfold lexSpaceLoop; log_tac
  | succ k ih => intro n; unfold lexSpaceLoop; log_tac [hp, ih]

theorem logs_lexSpace : Logs lexSpace := by
  have h := logs_lexSpaceLoop
  unfold lexSpace; log_tac [h]

theorem logs_lexIdentifierLoop : ∀ fuel, Logs (lexIdentifierLoop fuel) := by
  intro fuel
  have ht := logs_atTerminator
  induction fuel with
  | zero => unfold lexIdentifierLoop; log_tac
  | succ k ih =>
    unfold lexIdentifierLoop; log_tac [ht, ih]
    · rename_i t heq
      exact (kwTok_plain heq).1
    · log_tac
    · log_tac

theorem logs_lexIdentifier : Logs lexIdentifier := by
  have h := logs_lexIdentifierLoop
  unfold lexIdentifier; log_tac [h]

theorem logs_lexFieldLoop : ∀ fuel, Logs (lexFieldLoop fuel) := by
  intro fuel
  induction fuel with
  | zero => unfold lexFieldLoop; log_tac
  | succ k ih => unfold lexFieldLoop; log_tac [ih]

theorem logs_lexField : Logs lexField := by
  have ht := logs_atTerminator
  have hl := logs_lexFieldLoop
  unfold lexField; log_tac [ht, hl]

theorem logs_quotedLoop (q : Nat) (t : Tok) (ht : t ≠ Tok.eof) (msg : String) :
    ∀ fuel, Logs (quotedLoop q t msg fuel) := by
  intro fuel
  induction fuel with
  | zero => unfold quotedLoop; log_tac
  | succ k ih => unfold quotedLoop; log_tac [ih]

theorem logs_lexChar : Logs lexChar := by
  have h := logs_quotedLoop 39 Tok.charConstant (by decide)
  unfold lexChar; log_tac [h]

theorem logs_lexQuote : Logs lexQuote := by
  have h := logs_quotedLoop 34 Tok.string (by decide)
  unfold lexQuote; log_tac [h]

theorem logs_rawQuoteLoop : ∀ fuel, Logs (rawQuoteLoop fuel) := by
  intro fuel
  induction fuel with
  | zero => unfold rawQuoteLoop; log_tac
  | succ k ih => unfold rawQuoteLoop; log_tac [ih]

theorem logs_lexRawQuote : Logs lexRawQuote := by
  have h := logs_rawQuoteLoop
  unfold lexRawQuote; log_tac [h]

theorem logs_scanNumber : Logs scanNumber := by
  have h1 := logs_accept
  have h2 := logs_acceptRun
  have h3 := logs_peek
  unfold scanNumber; log_tac [h1, h2, h3]

theorem logs_lexNumber : Logs lexNumber := by
  have h := logs_scanNumber
  unfold lexNumber; log_tac [h]

/-! ### the text state: the only place where the end-of-file item is sent -/

theorem LogsS.ite {c : Prop} [Decidable c] {a b : M (Option StateId)} (ha : LogsS a) (hb : LogsS b) :
    LogsS (if c then a else b) := by split <;> assumption

macro "logS_step" : tactic =>
  `(tactic| first
  | log_step
  | with_reducible exact logsS_emit_eof_stop
  | with_reducible apply LogsS.bind
  | with_reducible apply LogsS.ite)

syntax "logS_tac" (" [" term,* "]")? : tactic
macro_rules
  | `(tactic| logS_tac) => `(tactic| logS_tac [])
  | `(tactic| logS_tac [$hs,*]) =>
    `(tactic| repeat (first | logS_step $[| (with_reducible apply $hs)]* | split | (with_reducible apply LogsS.of_logs) | dsimp only))

theorem logsS_lexTextEnd : LogsS lexTextLoop.lexTextEnd := by
  unfold lexTextLoop.lexTextEnd; logS_tac

theorem logsS_lexTextLoop : ∀ fuel, LogsS (lexTextLoop fuel) := by
  intro fuel
  have he := logsS_lexTextEnd
  induction fuel with
  | zero => unfold lexTextLoop; logS_tac
  | succ n ih => unfold lexTextLoop; logS_tac [ih, he]

theorem logsS_lexText : LogsS lexText := by
  have h := logsS_lexTextLoop
  unfold lexText; logS_tac [h]

theorem logsS_step (st : StateId) : LogsS (step st) := by
  cases st <;> unfold step
  · exact logsS_lexText
  · exact LogsS.of_logs logs_lexLeftDelim
  · exact LogsS.of_logs logs_lexComment
  · exact LogsS.of_logs logs_lexRightDelim
  · exact LogsS.of_logs logs_lexInsideAction
  · exact LogsS.of_logs logs_lexSpace
  · exact LogsS.of_logs logs_lexIdentifier
  · exact LogsS.of_logs logs_lexField
  · exact LogsS.of_logs logs_lexChar
  · exact LogsS.of_logs logs_lexNumber
  · exact LogsS.of_logs logs_lexQuote
  · exact LogsS.of_logs logs_lexRawQuote

/-- events of an outcome, oldest first (`Outcome.evs` of Lemmas/LexNoCrash.lean is the same function) -/
def Outcome.events : Outcome → List Event
  | .done e => e
  | .crash _ e => e
  | .outOfFuel e => e

/-- every run, however it ends, leaves a chain in which only the newest event can be the end-of-file item -/
theorem runLoop_log (inp : Bytes) : ∀ (fuel : Nat) (st : StateId) (s : St), Log inp s →
    ∃ s', (runLoop fuel st s).events = s'.events.reverse ∧ Stopped inp s' := by
  intro fuel
  induction fuel with
  | zero => intro st s hs; exact ⟨s, rfl, hs.stopped⟩
  | succ n ih =>
    intro st s hs
    have hp := logsS_step st inp s hs
    unfold runLoop
    cases hst : step st s with
    | ok o s' =>
      rw [hst] at hp
      cases o with
      | none => exact ⟨s', rfl, hp⟩
      | some st' => exact ih st' s' hp
    | crash msg s' =>
      rw [hst] at hp
      exact ⟨s', rfl, hp⟩

theorem lexRun_log (d : Delims) (input : Bytes) :
    ∃ s', (lexRun d input).events = s'.events.reverse ∧ Stopped input s' :=
  runLoop_log input _ .text { input := input, d := d } ⟨rfl, trivial, rfl, fun _ h => nomatch h⟩

/-- **The event log of every lexer run is a chain of verbatim slices**, for every input and every
    delimiter configuration, however the run ends. -/
theorem lexRun_chain (d : Delims) (input : Bytes) :
    Chain input (lexRun d input).events.reverse := by
  obtain ⟨s', h1, h2, _⟩ := lexRun_log d input
  rw [h1, List.reverse_reverse]
  exact h2

/-- in a finished run, an emitted end-of-file token is the last event of the log -/
theorem lexRun_eof_is_last_event (d : Delims) (input : Bytes) (evs : List Event)
    (h : lexRun d input = .done evs) :
    ∀ pre e post, evs = pre ++ e :: post → (∃ a b v, e = Event.emit Tok.eof a b v) → post = [] := by
  intro pre e post hev ⟨a, b, v, he⟩
  obtain ⟨s', h1, _, hn⟩ := lexRun_log d input
  rw [h] at h1
  have hl : s'.events = post.reverse ++ e :: pre.reverse := by
    rw [← List.reverse_reverse s'.events, ← h1]
    simp [Outcome.events, hev]
  cases hpost : post.reverse with
  | nil => simpa using hpost
  | cons x r =>
    rw [hl, hpost] at hn
    exact absurd he (hn e (by simp) a b v)

end JetVerif.Lex
