/-
  The logic and the invariant of the lexer's safety proof (Lemmas/LexNoCrash.lean).

  `Ok r Q`: the outcome `r` is `ok`, and its value and state satisfy `Q`.  A computation is always run from a
  given state, so `Q` may speak of that state ("the cursor has not moved back").  `LSafe P m Q` says the same
  of every start state satisfying `P`; its rules are the rules of `Ok`, pointwise.

  The invariant `B` of lex.go's cursor arithmetic: `0 ≤ start ≤ pos ≤ len(input)`, every event logged so far is
  positioned inside the source, a field item is a dot and a byte, an ignored range is what its `ignore` site
  may drop; `N`: after a `next` the rune just read can be given back (`start ≤ pos - width`).  `B` goes through
  every primitive by one lemma about the state that primitive leaves (`B.next`, `B.emit`, `B.ignore`, `B.err`),
  through a jump of the cursor by `B.move`; `width`, `lastType` and `parenDepth` are scratch (`B.scratch`).

  The primitives as equations (`runeAt s` is what `next` reads at the cursor: the rune, `none` at the end of
  the input, and its width), and each as one step at the head of a goal `Ok ((prim >>= f) s) Q`: run as a
  rewrite sequence they execute straight-line code and stop at the first `if` or `match` that needs a case
  split.  `Ok` occurs only at the root of a goal, so nothing in a branch not yet taken is touched.  The steps of
  the primitives that slice the input at the cursor (`B.bind_next`, `B.bind_peek`, `B.bind_emit`, `B.bind_rest`)
  take their bounds from a proof of `B` for the state they run in, which also tells the rewrite which state
  that is.  Last, what the tests at the cursor say: an ASCII rune is the byte under the cursor (`runeAt_some`,
  `runeAt_ascii`), `atRightDelim` and `atTerminator` (`termVal`) as functions of the state.
-/
import JetVerif.Lemmas.LexBytes

namespace JetVerif.Lex
open JetVerif.Utf8

theorem lbind_apply {α β} (m : M α) (f : α → M β) (s : St) :
    (m >>= f) s = (match m s with | .ok a s' => f a s' | .crash msg s' => .crash msg s') := rfl

@[simp] theorem lpure_apply {α} (a : α) (s : St) : (pure a : M α) s = .ok a s := rfl
@[simp] theorem get_apply (s : St) : get s = .ok s s := rfl
@[simp] theorem modify_apply (f : St → St) (s : St) : modify f s = .ok () (f s) := rfl

def Ok {α} (r : Res α) (Q : α → St → Prop) : Prop :=
  match r with
  | .ok a s => Q a s
  | .crash _ _ => False

theorem Ok.bind {α β} {m : M α} {f : α → M β} {s : St} {Q : α → St → Prop} {R : β → St → Prop}
    (h : Ok (m s) Q) (hf : ∀ a s', Q a s' → Ok (f a s') R) : Ok ((m >>= f) s) R := by
  rw [lbind_apply]
  cases hm : m s with
  | ok a s' => rw [hm] at h; exact hf a s' h
  | crash msg s' => rw [hm] at h; exact h.elim

theorem Ok.mono {α} {r : Res α} {Q Q' : α → St → Prop} (h : Ok r Q) (hq : ∀ a s, Q a s → Q' a s) : Ok r Q' := by
  cases r with
  | ok a s => exact hq a s h
  | crash msg s => exact h.elim

theorem Ok.ite {α} {c : Prop} [Decidable c] {m1 m2 : M α} {s : St} {Q : α → St → Prop}
    (h1 : c → Ok (m1 s) Q) (h2 : ¬ c → Ok (m2 s) Q) : Ok ((if c then m1 else m2) s) Q := by
  split
  · exact h1 ‹_›
  · exact h2 ‹_›

def LSafe {α} (P : St → Prop) (m : M α) (Q : α → St → Prop) : Prop :=
  ∀ s, P s → match m s with
    | .ok a s' => Q a s'
    | .crash _ _ => False

theorem LSafe.bind {α β} {P : St → Prop} {m : M α} {Q : α → St → Prop} {f : α → M β} {R : β → St → Prop}
    (hm : LSafe P m Q) (hf : ∀ a, LSafe (Q a) (f a) R) : LSafe P (m >>= f) R :=
  fun s hs => Ok.bind (hm s hs) fun a s' h => hf a s' h

theorem LSafe.pure {α} {P : St → Prop} {Q : α → St → Prop} (a : α) (h : ∀ s, P s → Q a s) :
    LSafe P (pure a : M α) Q := fun s hs => h s hs

theorem LSafe.pre {α} {P P' : St → Prop} {m : M α} {Q : α → St → Prop}
    (h : LSafe P m Q) (hp : ∀ s, P' s → P s) : LSafe P' m Q := fun s hs => h s (hp s hs)

theorem LSafe.post {α} {P : St → Prop} {m : M α} {Q Q' : α → St → Prop}
    (h : LSafe P m Q) (hq : ∀ a s, Q a s → Q' a s) : LSafe P m Q' := fun s hs => Ok.mono (h s hs) hq

theorem LSafe.ite {α} {P : St → Prop} {c : Prop} [Decidable c] {m1 m2 : M α} {Q : α → St → Prop}
    (h1 : c → LSafe P m1 Q) (h2 : ¬ c → LSafe P m2 Q) : LSafe P (if c then m1 else m2) Q :=
  fun s hs => Ok.ite (fun hc => h1 hc s hs) fun hc => h2 hc s hs

theorem LSafe.assume {α} {P : St → Prop} {m : M α} {Q : α → St → Prop} (φ : Prop)
    (h1 : ∀ s, P s → φ) (h2 : φ → LSafe P m Q) : LSafe P m Q := fun s hs => h2 (h1 s hs) s hs

theorem LSafe.get {P : St → Prop} : LSafe P get (fun a s => a = s ∧ P s) := fun _ hs => ⟨rfl, hs⟩

theorem LSafe.modify {P : St → Prop} {Q : St → Prop} (f : St → St) (h : ∀ s, P s → Q (f s)) :
    LSafe P (modify f) (fun _ s => Q s) := fun s hs => h s hs

/-- the delimiter configuration `lex()` / `setDelimiters` produce -/
structure WfD (d : Delims) : Prop where
  left : d.left ≠ []
  lcomment : d.lcomment ≠ []
  right : d.right ≠ []
  trimRight : d.trimRight = rightTrimMarker ++ d.right

theorem mkDelims_wf (l r lc rc : Bytes) : WfD (mkDelims l r lc rc) := by
  refine ⟨?_, ?_, ?_, rfl⟩
  all_goals
    simp only [mkDelims]
    split <;> simp_all [defaultDelims]

def EvOk (len : Int) : Event → Prop
  | .emit _ a b _ => 0 ≤ a ∧ a ≤ b ∧ b ≤ len
  | .ignore _ a b => 0 ≤ a ∧ a ≤ b ∧ b ≤ len
  | .err a _ => 0 ≤ a ∧ a ≤ len

/-- a field item is a dot followed by at least one byte -/
def FieldEv : Event → Prop
  | .emit t _ _ v => t = Tok.field → ∃ c cs, v = 46 :: c :: cs
  | _ => True

def AllSpace (b : Bytes) : Prop := ∀ c ∈ b, isSpaceByte c = true

/-- what each of the five `l.ignore()` sites may drop -/
def IgnK (d : Delims) : IgnKind → Bytes → Prop
  | .trimLeft, v => AllSpace v
  | .markLeft, v => v = leftTrimMarker
  | .comment, v => ∃ body, v = d.lcomment ++ body ++ d.rcomment
  | .markRight, v => ∃ ws, AllSpace ws ∧ v = ws ++ rightTrimMarker
  | .trimRight, v => AllSpace v

/-- every range the lexer dropped is a whitespace run, a trim marker (with the space item pending in
    front of it) or a whole comment -/
def IgnEv (inp : Bytes) (d : Delims) : Event → Prop
  | .ignore k a b => IgnK d k ((inp.drop a.toNat).take (b - a).toNat)
  | _ => True

/-- the cursor invariant between operations -/
structure B (inp : Bytes) (d : Delims) (lo : Int) (s : St) : Prop where
  input : s.input = inp
  delims : s.d = d
  wfd : WfD d
  start0 : 0 ≤ s.start
  startPos : s.start ≤ s.pos
  posLen : s.pos ≤ inp.length
  events : ∀ e ∈ s.events, EvOk inp.length e
  fields : ∀ e ∈ s.events, FieldEv e
  /-- a floor under `start`: lets a caller read off how far a state function moved it -/
  low : lo ≤ s.start
  ign : ∀ e ∈ s.events, IgnEv inp d e

/-- right after a `next`: the rune just read (of width `width`) can be given back -/
structure N (inp : Bytes) (d : Delims) (lo : Int) (s : St) : Prop extends B inp d lo s where
  width0 : 0 ≤ s.width
  back : s.start ≤ s.pos - s.width

/-- an ASCII byte is its own rune, of width 1; any other leading byte yields a rune from 128 up (utf8 admits no
    overlong form: the second byte of `E0 ..` and `F0 ..` is bounded below), of a width between 1 and what is there -/
theorem decodeRune_cons (b : UInt8) (rest : Bytes) :
    (if b < 128 then decodeRune (b :: rest) = (b.toNat, 1) else 128 ≤ (decodeRune (b :: rest)).1) ∧
    1 ≤ (decodeRune (b :: rest)).2 ∧ (decodeRune (b :: rest)).2 ≤ (b :: rest).length := by
  by_cases hb : b < 128
  · simp [decodeRune, hb]
  rw [if_neg hb]
  have herr : ∀ n, 128 ≤ (runeError, 1).1 ∧ 1 ≤ (runeError, 1).2 ∧ (runeError, 1).2 ≤ n + 1 :=
    fun n => ⟨by decide, Nat.le_refl 1, Nat.le_add_left 1 n⟩
  generalize hl : b :: rest = l
  -- the leaves in the order of the definition
  fun_cases decodeRune l <;> cases hl
  · exact (hb ‹_›).elim
  · rename_i h0
    simp only [UInt8.le_iff_toNat_le, UInt8.toNat_ofNat] at h0
    exact ⟨by dsimp only; omega, by simp, by simp⟩
  · exact herr _
  · exact herr _
  · rename_i b1 _ _ _ _ h0 lo hi h
    simp only [UInt8.le_iff_toNat_le, UInt8.toNat_ofNat] at h0
    refine ⟨?_, by simp, by simp⟩
    by_cases he : b = 224
    · have h1 : (160 : UInt8) ≤ b1 ∧ b1 ≤ 191 := by simpa [lo, hi, he] using And.intro h.1 h.2.1
      simp only [UInt8.le_iff_toNat_le, UInt8.toNat_ofNat] at h1
      dsimp only; omega
    · have : b.toNat ≠ 224 := fun e => he (UInt8.toNat_inj.mp e)
      dsimp only; omega
  · exact herr _
  · exact herr _
  · rename_i b1 _ _ _ _ _ _ h0 lo hi h
    simp only [UInt8.le_iff_toNat_le, UInt8.toNat_ofNat] at h0
    refine ⟨?_, by simp, by simp⟩
    by_cases he : b = 240
    · have h1 : (144 : UInt8) ≤ b1 ∧ b1 ≤ 191 := by simpa [lo, hi, he] using And.intro h.1 h.2.1
      simp only [UInt8.le_iff_toNat_le, UInt8.toNat_ofNat] at h1
      dsimp only; omega
    · have : b.toNat ≠ 240 := fun e => he (UInt8.toNat_inj.mp e)
      dsimp only; omega
  · exact herr _
  · exact herr _
  · exact herr _

def runeAt (s : St) : Option Nat × Int :=
  if s.pos ≥ s.input.length then (none, 0)
  else ((some (decodeRune (s.input.drop s.pos.toNat)).1), ((decodeRune (s.input.drop s.pos.toNat)).2 : Int))

theorem next_eq (s : St) (h0 : 0 ≤ s.pos) (h1 : s.pos ≤ s.input.length) :
    next s = .ok (runeAt s).1 { s with width := (runeAt s).2, pos := s.pos + (runeAt s).2 } := by
  unfold next runeAt
  by_cases hge : s.pos ≥ s.input.length
  · simp [hge]
  · simp only [hge, if_false]
    rw [sliceFrom_eq s.input s.pos h0 h1]

theorem runeAt_bounds (s : St) (h0 : 0 ≤ s.pos) (h1 : s.pos ≤ s.input.length) :
    0 ≤ (runeAt s).2 ∧ s.pos + (runeAt s).2 ≤ s.input.length ∧ ((runeAt s).1.isSome → 1 ≤ (runeAt s).2) := by
  unfold runeAt
  by_cases hge : s.pos ≥ s.input.length
  · simp [hge]; omega
  · simp only [hge, if_false]
    cases hd : s.input.drop s.pos.toNat with
    | nil => have := List.drop_eq_nil_iff.mp hd; omega
    | cons b rest =>
      have hw := (decodeRune_cons b rest).2
      rw [show (b :: rest).length = s.input.length - s.pos.toNat from hd ▸ List.length_drop] at hw
      exact ⟨by omega, by omega, fun _ => by omega⟩

theorem backup_eq (s : St) : backup s = .ok () { s with pos := s.pos - s.width } := rfl

theorem peek_eq (s : St) (h0 : 0 ≤ s.pos) (h1 : s.pos ≤ s.input.length) :
    peek s = .ok (runeAt s).1 { s with width := (runeAt s).2 } := by
  unfold peek
  rw [lbind_apply, next_eq s h0 h1]
  simp only [lbind_apply, backup_eq]
  show Res.ok _ _ = _
  congr 1
  cases s
  simp

theorem restAt_eq (s : St) (a : Int) (h0 : 0 ≤ a) (h1 : a ≤ s.input.length) :
    restAt a s = .ok (s.input.drop a.toNat) s := by
  unfold restAt
  rw [sliceFrom_eq s.input a h0 h1]

theorem emit_eq (t : Tok) (s : St) (h0 : 0 ≤ s.start) (h1 : s.start ≤ s.pos) (h2 : s.pos ≤ s.input.length) :
    emit t s = .ok () { s with lastType := t, start := s.pos,
                               events := .emit t s.start s.pos (seg s.input s.start s.pos) :: s.events } := by
  unfold emit
  rw [slice_eq h0 h1 h2]

/-- a bound on the cursor: `omega`, after the projections of a record literal have been reduced (it does not
    look through them) -/
macro "cursor_arith" : tactic => `(tactic| first | (dsimp only; omega) | omega | (dsimp only at *; omega))

section
variable {α β γ : Type} {Q : β → St → Prop} {s : St}

theorem Ok.bind_assoc {m : M α} {g : α → M γ} {f : γ → M β} :
    Ok (((m >>= g) >>= f) s) Q ↔ Ok ((m >>= fun x => g x >>= f) s) Q := by
  simp only [lbind_apply]; cases m s <;> rfl

theorem Ok.pure_iff {a : β} : Ok ((pure a : M β) s) Q ↔ Q a s := Iff.rfl
theorem Ok.bind_pure {a : α} {f : α → M β} : Ok ((pure a >>= f) s) Q ↔ Ok (f a s) Q := Iff.rfl
theorem Ok.bind_get {f : St → M β} : Ok ((get >>= f) s) Q ↔ Ok (f s s) Q := Iff.rfl
theorem Ok.bind_modify {g : St → St} {f : Unit → M β} : Ok ((modify g >>= f) s) Q ↔ Ok (f () (g s)) Q := Iff.rfl

theorem Ok.bind_ignore {k : IgnKind} {f : Unit → M β} : Ok ((ignore k >>= f) s) Q ↔
    Ok (f () { s with start := s.pos, events := .ignore k s.start s.pos :: s.events }) Q := Iff.rfl

theorem Ok.bind_firstByte {c : UInt8} {r : Bytes} {f : UInt8 → M β} :
    Ok ((firstByte (c :: r) >>= f) s) Q ↔ Ok (f c s) Q := Iff.rfl

theorem Ok.bind_restAt {a : Int} {f : Bytes → M β} (h0 : 0 ≤ a) (h1 : a ≤ s.input.length) :
    Ok ((restAt a >>= f) s) Q ↔ Ok (f (s.input.drop a.toNat) s) Q := by
  rw [lbind_apply, restAt_eq s a h0 h1]

theorem Ok.bind_ite_pure {c : Prop} [Decidable c] {a b : α} {f : α → M β} :
    Ok (((if c then (pure a : M α) else pure b) >>= f) s) Q ↔ Ok (f (if c then a else b) s) Q := by
  split <;> rfl

theorem Ok.bind_backup {f : Unit → M β} : Ok ((backup >>= f) s) Q ↔ Ok (f () { s with pos := s.pos - s.width }) Q :=
  Iff.rfl

end

/-! ### the invariant through a change of state: the cursor moves, scratch is written, an event is logged -/

section
variable {inp : Bytes} {d : Delims} {lo : Int} {s : St}

theorem B.pos0 (h : B inp d lo s) : 0 ≤ s.pos := Int.le_trans h.start0 h.startPos

/-- the fuel every loop is given (`fuelOf`) covers what is left of the input -/
theorem B.fuel (h : B inp d lo s) : (inp.length : Int) - s.pos < fuelOf s := by
  have := h.pos0
  simp only [fuelOf, h.input]
  omega

/-- a lower floor -/
theorem B.relo {s : St} (h : B inp d lo s) (lo' : Int) (hl : lo' ≤ s.start) : B inp d lo' s :=
  ⟨h.input, h.delims, h.wfd, h.start0, h.startPos, h.posLen, h.events, h.fields, hl, h.ign⟩

/-- the floor at `start` itself: where a state function sets out -/
theorem B.here (h : B inp d lo s) : B inp d s.start s := h.relo _ (Int.le_refl _)

theorem B.move (h : B inp d lo s) (p : Int) (h1 : s.start ≤ p) (h2 : p ≤ inp.length) : B inp d lo { s with pos := p } :=
  ⟨h.input, h.delims, h.wfd, h.start0, h1, h2, h.events, h.fields, h.low, h.ign⟩

/-- `width`, `lastType` and `parenDepth` are scratch -/
theorem B.scratch (h : B inp d lo s) (w : Int) (t : Tok) (n : Int) :
    B inp d lo { s with width := w, lastType := t, parenDepth := n } :=
  ⟨h.input, h.delims, h.wfd, h.start0, h.startPos, h.posLen, h.events, h.fields, h.low, h.ign⟩

/-- an event for the range `[start, pos)` is logged and `start` catches up -/
theorem B.log (h : B inp d lo s) (t : Tok) (e : Event) (he : EvOk inp.length e ∧ FieldEv e ∧ IgnEv inp d e) :
    B inp d lo { s with lastType := t, start := s.pos, events := e :: s.events } :=
  ⟨h.input, h.delims, h.wfd, h.pos0, Int.le_refl _, h.posLen,
    List.forall_mem_cons.mpr ⟨he.1, h.events⟩, List.forall_mem_cons.mpr ⟨he.2.1, h.fields⟩, Int.le_trans h.low h.startPos,
    List.forall_mem_cons.mpr ⟨he.2.2, h.ign⟩⟩

theorem B.ignore (h : B inp d lo s) (k : IgnKind) (hk : IgnK d k (seg inp s.start s.pos)) :
    B inp d lo { s with start := s.pos, events := .ignore k s.start s.pos :: s.events } :=
  h.log s.lastType _ ⟨⟨h.start0, h.startPos, h.posLen⟩, trivial, hk⟩

theorem B.emit (h : B inp d lo s) (t : Tok) (hf : t = Tok.field → ∃ c cs, seg s.input s.start s.pos = 46 :: c :: cs) :
    B inp d lo { s with lastType := t, start := s.pos,
                        events := .emit t s.start s.pos (seg s.input s.start s.pos) :: s.events } :=
  h.log t _ ⟨⟨h.start0, h.startPos, h.posLen⟩, hf, trivial⟩

theorem B.err (h : B inp d lo s) (msg : String) : B inp d lo { s with events := Event.err s.start msg :: s.events } :=
  ⟨h.input, h.delims, h.wfd, h.start0, h.startPos, h.posLen,
    List.forall_mem_cons.mpr ⟨⟨h.start0, Int.le_trans h.startPos h.posLen⟩, h.events⟩,
    List.forall_mem_cons.mpr ⟨trivial, h.fields⟩, h.low, List.forall_mem_cons.mpr ⟨trivial, h.ign⟩⟩

theorem B.rune (h : B inp d lo s) :
    0 ≤ (runeAt s).2 ∧ s.pos + (runeAt s).2 ≤ inp.length ∧ ((runeAt s).1.isSome → 1 ≤ (runeAt s).2) :=
  h.input ▸ runeAt_bounds s h.pos0 (h.input ▸ h.posLen)

theorem B.next (h : B inp d lo s) : N inp d lo { s with width := (runeAt s).2, pos := s.pos + (runeAt s).2 } :=
  ⟨(h.move _ (Int.le_trans h.startPos (Int.le_add_of_nonneg_right h.rune.1)) h.rune.2.1).scratch _ _ _, h.rune.1, by
    show s.start ≤ s.pos + (runeAt s).2 - (runeAt s).2
    rw [Int.add_sub_cancel]
    exact h.startPos⟩

/-! ### the head steps whose bounds are those of `B` -/

variable {β : Type} {Q : β → St → Prop}

theorem B.bind_rest (h : B inp d lo s) {f : Bytes → M β} :
    Ok ((restAt s.pos >>= f) s) Q ↔ Ok (f (s.input.drop s.pos.toNat) s) Q :=
  Ok.bind_restAt h.pos0 (h.input ▸ h.posLen)

theorem B.bind_emit (h : B inp d lo s) {t : Tok} {f : Unit → M β} :
    Ok ((Lex.emit t >>= f) s) Q ↔
    Ok (f () { s with lastType := t, start := s.pos,
                      events := .emit t s.start s.pos (seg s.input s.start s.pos) :: s.events }) Q := by
  rw [lbind_apply, emit_eq t s h.start0 h.startPos (h.input ▸ h.posLen)]

theorem B.bind_next (h : B inp d lo s) {f : Option Nat → M β} :
    Ok ((Lex.next >>= f) s) Q ↔ Ok (f (runeAt s).1 { s with width := (runeAt s).2, pos := s.pos + (runeAt s).2 }) Q := by
  rw [lbind_apply, next_eq s h.pos0 (h.input ▸ h.posLen)]

theorem B.bind_peek (h : B inp d lo s) {f : Option Nat → M β} :
    Ok ((Lex.peek >>= f) s) Q ↔ Ok (f (runeAt s).1 { s with width := (runeAt s).2 }) Q := by
  rw [lbind_apply, peek_eq s h.pos0 (h.input ▸ h.posLen)]

end

/-! ### what is at the cursor: runes, space runs, the right delimiter, terminators -/

variable {inp : Bytes} {d : Delims} {lo : Int}

/-- the value `emit` sends: `l.input[l.start:l.pos]` -/
def pending (s : St) : Bytes := (s.input.drop s.start.toNat).take (s.pos - s.start).toNat

theorem N.backup {s : St} (h : N inp d lo s) : B inp d lo { s with pos := s.pos - s.width } :=
  h.toB.move _ h.back (by have := h.posLen; have := h.width0; omega)

theorem runeAt_congr (s t : St) (hi : s.input = t.input) (hp : s.pos = t.pos) : runeAt s = runeAt t := by
  unfold runeAt
  rw [hi, hp]

/-- the rune at the cursor, by the byte it starts with -/
theorem runeAt_some (s : St) (h0 : 0 ≤ s.pos) {c : Nat} (h : (runeAt s).1 = some c) :
    ∃ b tl, s.input.drop s.pos.toNat = b :: tl ∧ if b < 128 then c = b.toNat ∧ (runeAt s).2 = 1 else 128 ≤ c := by
  unfold runeAt at h ⊢
  split at h
  · cases h
  · rename_i hge
    rw [if_neg hge]
    cases hd : s.input.drop s.pos.toNat with
    | nil => have := List.drop_eq_nil_iff.mp hd; omega
    | cons b tl =>
      rw [hd] at h
      cases h
      refine ⟨b, tl, rfl, ?_⟩
      have hc := (decodeRune_cons b tl).1
      split
      · rw [if_pos ‹_›] at hc; rw [hc]; exact ⟨rfl, rfl⟩
      · rwa [if_neg ‹_›] at hc

theorem runeAt_ascii (s : St) (h0 : 0 ≤ s.pos) {c : Nat} (h : (runeAt s).1 = some c) (hc : c < 128) :
    (runeAt s).2 = 1 ∧ ∃ b tl, s.input.drop s.pos.toNat = b :: tl ∧ b.toNat = c := by
  obtain ⟨b, tl, hd, hb⟩ := runeAt_some s h0 h
  split at hb
  · exact ⟨hb.2, b, tl, hd, hb.1.symm⟩
  · omega

theorem isSpaceByte_toNat (b : UInt8) : isSpaceByte b = isSpace (some b.toNat) := by
  have e : ∀ k : UInt8, (b == k) = (b.toNat == k.toNat) := fun k => by
    rw [Bool.eq_iff_iff, beq_iff_eq, beq_iff_eq, UInt8.toNat_inj]
  simp only [isSpaceByte, isSpace, e]; rfl

theorem isSpace_ascii {c : Nat} (h : isSpace (some c) = true) : c < 128 := by
  simp only [isSpace, Bool.or_eq_true, beq_iff_eq] at h; omega

/-- the tests on a rune (`isSpace`, `isAlphaNumeric`, `runeIn valid`) all say no at the end of the input -/
theorem isSome_of_test {f : Option Nat → Bool} (hf : f none = false) {r : Option Nat} (h : f r = true) : r.isSome := by
  cases r with
  | none => rw [hf] at h; cases h
  | some c => rfl

theorem AllSpace.take {b : Bytes} (h : AllSpace b) (n : Nat) : AllSpace (b.take n) :=
  fun c hc => h c (List.mem_of_mem_take hc)

theorem AllSpace.nil : AllSpace [] := List.forall_mem_nil _

theorem AllSpace.snoc {b : Bytes} (h : AllSpace b) (x : UInt8) (hx : isSpaceByte x = true) : AllSpace (b ++ [x]) :=
  List.forall_mem_append.mpr ⟨h, List.forall_mem_singleton.mpr hx⟩

theorem atRightDelim_ok (s : St) (h : B inp d lo s) :
    Ok (atRightDelim s) (fun r s' => s' = s ∧
      (r.1 = true → hasPrefix (s.input.drop s.pos.toNat) s.d.trimRight = true ∨ hasPrefix (s.input.drop s.pos.toNat) s.d.right = true) ∧
      (r.1 = false → hasPrefix (s.input.drop s.pos.toNat) s.d.trimRight = false)) := by
  unfold atRightDelim
  rw [Ok.bind_get, h.bind_rest]
  split
  · rename_i hp; exact ⟨rfl, fun _ => .inl hp, nofun⟩
  · rename_i hnt
    split
    · rename_i hp; exact ⟨rfl, fun _ => .inr hp, nofun⟩
    · exact ⟨rfl, nofun, fun _ => by simpa using hnt⟩

/-- what `atTerminator` answers: a function of the rune at the cursor and the right delimiter -/
def termVal (s : St) : Bool :=
  if isSpace (runeAt s).1 then true
  else match (runeAt s).1 with
    | none => Facts.terminatorEOF
    | some c => if Facts.terminatorChars.contains c then true else (decodeRune s.d.right).1 == c

theorem atTerminator_eq (s : St) (h0 : 0 ≤ s.pos) (h1 : s.pos ≤ s.input.length) :
    atTerminator s = .ok (termVal s) { s with width := (runeAt s).2 } := by
  unfold atTerminator termVal
  rw [lbind_apply, peek_eq s h0 h1]
  dsimp only [lbind_apply, get_apply]
  generalize (runeAt s).1 = r
  split
  · rfl
  · cases r with
    | none => rfl
    | some c => dsimp only; split <;> rfl

theorem B.bind_atTerminator {β} {Q : β → St → Prop} {s : St} (h : B inp d lo s) {f : Bool → M β} :
    Ok ((atTerminator >>= f) s) Q ↔ Ok (f (termVal s) { s with width := (runeAt s).2 }) Q := by
  rw [lbind_apply, atTerminator_eq s h.pos0 (h.input ▸ h.posLen)]

end JetVerif.Lex
