/-
  Partial correctness for the parser monad when only the value returned matters.

  `Ret J m Q`: if `m` returns from a state satisfying `J`, then `J` holds again and the value returned satisfies `Q`.
  The passes that establish a fact about every tree the productions build (Lemmas/ParseLines.lean,
  Lemmas/ParseShape.lean) are instances.  Most of what a production calls either never returns (`Fails`: `errorf`
  and its callers) or writes neither `input` nor `passed` (`Frame`: the token buffer); for an invariant that reads
  only these two fields (`Framed`) such a call needs no argument.  Both are classes, so that the fact about a
  primitive is found from the primitive.  `registerBlock_eq_ok` says what the one writer of `passed` does to it.
  At the end `rwalk`, the tactic with which both passes go through a production along its shape.
-/
import JetVerif.Lemmas.ParseHoare

namespace JetVerif.Parse

def Ret (J : PSt → Prop) {α} (m : PM α) (Q : α → Prop) : Prop :=
  ∀ s, J s → ∀ a s', m s = .ok a s' → J s' ∧ Q a

/-- `Ret` is the triple of Lemmas/ParseHoare.lean whose verdict demands nothing of a run that does not return -/
theorem ret_iff_hoare {J : PSt → Prop} {α} {m : PM α} {Q : α → Prop} :
    Ret J m Q ↔ Hoare ⟨fun _ => True, True, True⟩ J m (fun a s => J s ∧ Q a) :=
  forall₂_congr fun s _ => by unfold PRes.Sat; cases m s <;> simp

namespace Ret
variable {J : PSt → Prop} {α β : Type}

theorem bind {m : PM α} {f : α → PM β} {P : α → Prop} {R : β → Prop}
    (hm : Ret J m P) (hf : ∀ a, P a → Ret J (f a) R) : Ret J (m >>= f) R :=
  ret_iff_hoare.2 <| (ret_iff_hoare.1 hm).bind fun a => .assume (P a) (fun _ h => h.2) fun h =>
    (ret_iff_hoare.1 (hf a h)).weaken (fun _ h => h.1) fun _ _ h => h

theorem pure {Q : α → Prop} {a : α} (h : Q a) : Ret J (Pure.pure a : PM α) Q := by
  intro s hs b s' e
  cases e
  exact ⟨hs, h⟩

/-- the branch knows the outcome of the test.  The decision procedure is an implicit argument, read off the goal: a
    goal that is no conditional is turned down by unification, before any instance is looked for -/
theorem ite {c : Prop} {d : Decidable c} {m1 m2 : PM α} {Q : α → Prop}
    (h1 : c → Ret J m1 Q) (h2 : ¬ c → Ret J m2 Q) : Ret J (@_root_.ite _ c d m1 m2) Q := by
  split
  · exact h1 ‹_›
  · exact h2 ‹_›

theorem post {m : PM α} {Q Q' : α → Prop} (h : Ret J m Q) (hq : ∀ a, Q a → Q' a) : Ret J m Q' :=
  fun s hs a s' e => ⟨(h s hs a s' e).1, hq a (h s hs a s' e).2⟩

end Ret

/-! ### computations that never return: `t.errorf` and its callers panic -/

class Fails {α} (m : PM α) : Prop where
  ne : ∀ s a s', m s ≠ .ok a s'

theorem Ret.fails {J : PSt → Prop} {α} {m : PM α} [h : Fails m] {Q : α → Prop} : Ret J m Q :=
  fun s _ a s' e => (h.ne s a s' e).elim

namespace Fails
variable {α : Type}
instance (ps : List MP) : Fails (errorf ps : PM α) := ⟨fun s _ _ => by unfold errorf; split <;> simp⟩
instance (w : String) : Fails (unsupported w : PM α) := ⟨fun _ _ _ => by simp [unsupported]⟩
instance (w : String) : Fails (crash w : PM α) := ⟨fun _ _ _ => by simp [crash]⟩
instance : Fails (outOfFuel : PM α) := ⟨fun _ _ _ => by simp [outOfFuel]⟩
instance {c : Prop} [Decidable c] {m1 m2 : PM α} [Fails m1] [Fails m2] : Fails (if c then m1 else m2) := by
  split <;> infer_instance
instance (tk : Item) (c x : String) : Fails (unexpected tk c x : PM α) := by unfold unexpected; infer_instance
end Fails

/-! ### computations that leave the input and the registered blocks alone -/

/-- `m` keeps "the input is `i`, the registered blocks are `p`", whatever `i` and `p`: the rules of `Frame` are those
    of `Ret` -/
class Frame {α} (m : PM α) : Prop where
  ret : ∀ i p, Ret (fun s => s.input = i ∧ s.passed = p) m fun _ => True

def Framed (J : PSt → Prop) : Prop := ∀ s s', s'.input = s.input → s'.passed = s.passed → J s → J s'

theorem Ret.frame {J : PSt → Prop} {α} {m : PM α} [h : Frame m] {Q : α → Prop} (hJ : Framed J) (hQ : ∀ a, Q a) :
    Ret J m Q := fun s hs a s' e =>
  have h := (h.ret s.input s.passed s ⟨rfl, rfl⟩ a s' e).1
  ⟨hJ s s' h.1 h.2 hs, hQ a⟩

/-- after such a call the walk goes on with nothing to say about its result -/
theorem Ret.bindFrame {J : PSt → Prop} {α β} {m : PM α} [Frame m] {f : α → PM β} {R : β → Prop}
    (hJ : Framed J) (hf : ∀ a, Ret J (f a) R) : Ret J (m >>= f) R :=
  Ret.bind (Ret.frame hJ fun _ => trivial) fun a _ => hf a

namespace Frame
variable {α β : Type}

theorem pure (a : α) : Frame (pure a : PM α) := ⟨fun _ _ => Ret.pure trivial⟩

theorem bind {m : PM α} {f : α → PM β} [hm : Frame m] [hf : ∀ a, Frame (f a)] : Frame (m >>= f) :=
  ⟨fun i p => Ret.bind (hm.ret i p) fun a _ => (hf a).ret i p⟩

theorem ite {c : Prop} [Decidable c] {m1 m2 : PM α} [h1 : Frame m1] [h2 : Frame m2] : Frame (if c then m1 else m2) :=
  ⟨fun i p => Ret.ite (fun _ => h1.ret i p) fun _ => h2.ret i p⟩

/- Instances only here, where the primitives made of other primitives are classified: a walk asks the class about single
   calls, and a computation put together in a production is to be turned down at once. -/
attribute [local instance] pure bind ite

instance {m : PM α} [Fails m] : Frame m := ⟨fun _ _ => Ret.fails⟩
instance : Frame get := ⟨fun _ _ _ hs _ _ e => by cases e; exact ⟨hs, trivial⟩⟩
/-- no instance: what `lineNumber` returns is what the pass about lines is about -/
theorem lineNumber : Frame lineNumber :=
  ⟨fun _ _ s hs _ _ e => by unfold Parse.lineNumber at e; split at e <;> cases e; exact ⟨hs, trivial⟩⟩
instance : Frame nextItem :=
  ⟨fun _ _ s hs _ _ e => by unfold nextItem at e; split at e <;> cases e <;> exact ⟨hs, trivial⟩⟩
instance (i : Nat) : Frame (tokenAt i) :=
  ⟨fun _ _ s hs _ _ e => by unfold tokenAt at e; split at e <;> cases e <;> exact ⟨hs, trivial⟩⟩
instance (v : Bytes) : Frame (fieldNames v) := by unfold fieldNames; split <;> infer_instance
instance (fs : List Bytes) (v : Bytes) : Frame (chainAdd fs v) := by unfold chainAdd; split <;> infer_instance

theorem modify (f : PSt → PSt) (hf : ∀ s, (f s).input = s.input ∧ (f s).passed = s.passed) : Frame (modify f) :=
  ⟨fun _ _ s hs _ _ e => by cases e; exact ⟨⟨(hf s).1.trans hs.1, (hf s).2.trans hs.2⟩, trivial⟩⟩

/-- the two fields the prologue writes -/
instance (e : Option Bytes) : Frame (Parse.modify fun s => { s with ext := e }) := modify _ fun _ => ⟨rfl, rfl⟩
instance (nm : Bytes) : Frame (Parse.modify fun s => { s with imports := s.imports ++ [nm] }) :=
  modify _ fun _ => ⟨rfl, rfl⟩
instance : Frame backup := modify _ fun _ => ⟨rfl, rfl⟩
instance (t : Item) : Frame (backup2 t) := modify _ fun _ => ⟨rfl, rfl⟩
instance : Frame next := by
  have := modify (fun s => { s with peekCount := s.peekCount - 1 }) fun _ => ⟨rfl, rfl⟩
  have := fun it => modify (fun s => { s with t0 := it }) fun _ => ⟨rfl, rfl⟩
  unfold next; infer_instance
instance : Frame peek := by
  have := fun it => modify (fun s => { s with peekCount := 1, t0 := it }) fun _ => ⟨rfl, rfl⟩
  unfold peek; infer_instance
instance nextNonSpaceLoop : ∀ n, Frame (Parse.nextNonSpaceLoop n)
  | 0 => by unfold Parse.nextNonSpaceLoop; infer_instance
  | n + 1 => by have := nextNonSpaceLoop n; unfold Parse.nextNonSpaceLoop; infer_instance
instance : Frame nextNonSpace := ⟨fun i p s => (nextNonSpaceLoop _).ret i p s⟩
instance : Frame peekNonSpace := by unfold peekNonSpace; infer_instance
instance (ty : Tok) (c e : String) : Frame (expect ty c e) := by unfold expect; infer_instance
instance (c : String) : Frame (expectRightDelim c) := by unfold expectRightDelim; infer_instance
instance (t1 t2 : Tok) (c e : String) : Frame (expectOneOf t1 t2 c e) := by unfold expectOneOf; infer_instance
instance (cfg : Cfg) (c : String) : Frame (expectString cfg c) := by
  unfold expectString
  refine @bind _ _ _ _ inferInstance fun _ => ?_
  split <;> infer_instance

end Frame

/-- `registerBlock`, the one writer of `passed`: afterwards every registered block was registered before or is `b` -/
theorem registerBlock_eq_ok {name : Bytes} {b : PStmt} {s s' : PSt} {a : Unit}
    (e : registerBlock name b s = .ok a s') : s'.input = s.input ∧ ∀ x ∈ s'.passed, x ∈ s.passed ∨ x.2 = b := by
  cases e
  dsimp only
  split
  · refine ⟨rfl, fun x hx => ?_⟩
    obtain ⟨y, hy, rfl⟩ := List.mem_map.mp hx
    split
    · exact Or.inr rfl
    · exact Or.inl hy
  · exact ⟨rfl, fun x hx => (List.mem_append.mp hx).imp_right fun h => congrArg (·.2) (List.mem_singleton.mp h)⟩

/-- `rwalk close [h₁, …]` proves a triple `T m Q` along the shape of `m`, for a `T` that is `Ret J` written out
    (`Keeps inp`, `Holds`) and has the rules under its own name, which is where `.pure` etc. are looked up: `T.pure`,
    `T.fails`, `T.ite`, `T.bindFrame`, `T.bind`, `T.lineNumber`, `T.bindOk`.  A value returned has to satisfy the
    postcondition: that is for the tactic `close`.  A call of a production is met with its triple, one of the `hᵢ`,
    whose hypotheses are for `close` too; if more follows (`call >>= f`), `f` is walked under the postcondition of that
    triple (the first of the goals `T.bind` leaves, hence `rotate_left`).  A first computation that is neither such a
    call nor one into the token buffer gets the postcondition its result type determines (`T.bindOk`).  `T.ite` may hand
    the test to the branches (`intro`).  A `match` is `split`.  The alternatives stand in the order of what it costs to
    be turned down. -/
macro "rwalk " close:tactic:max " [" hs:term,* "]" : tactic => `(tactic| repeat' first
  | ((with_reducible refine .pure ?_); $close)
  | with_reducible exact .fails
  | with_reducible refine .ite ?_ ?_
  | with_reducible intro _
  | with_reducible refine .bindFrame (fun _ => ?_)
  | ((with_reducible refine' .bind ?_ (fun _ _ => ?_)); rotate_left
     (with_reducible first | exact .lineNumber $[| apply $hs]*) <;> $close)
  | with_reducible refine .bindOk ?_ (fun _ _ => ?_)
  | split
  | ((with_reducible first | fail $[| apply $hs]*) <;> $close))

end JetVerif.Parse
