/-
  The control structures of the parser model (`textOrAction`, `action`, `parseControl`, `itemList`)
  on the token spelling of a derivation of the statement grammar (Model/StmtGrammar.lean): by mutual
  structural recursion over the grammar, each production maps the spelling to the promised tree and
  stops right behind it.  Helper lemmas for Props/C05P.lean.
-/
import JetVerif.Props.C04P
import JetVerif.Model.StmtGrammar

namespace JetVerif.Parse
open JetVerif.ExprGrammar JetVerif.StmtGrammar
open JetVerif.Props.C04P (precedence_and_associativity precedence_after_backup)

variable (cfg : Cfg)

/- Type, position and value of the items of the canonical spelling, for `simp` (not `rfl` lemmas, see `it_typ`). -/

@[simp] theorem ld_typ : ld.typ = Tok.leftDelim := by simp [ld]
@[simp] theorem ld_pos : ld.pos = 0 := by simp [ld]
@[simp] theorem rd_typ : rd.typ = Tok.rightDelim := by simp [rd]
@[simp] theorem rd_pos : rd.pos = 0 := by simp [rd]
@[simp] theorem sp_typ : sp.typ = Tok.space := by simp [sp]
@[simp] theorem sp_pos : sp.pos = 0 := by simp [sp]
@[simp] theorem kIf_typ : kIf.typ = Tok.if_ := by simp [kIf]
@[simp] theorem kIf_pos : kIf.pos = 0 := by simp [kIf]
@[simp] theorem kElse_typ : kElse.typ = Tok.else_ := by simp [kElse]
@[simp] theorem kElse_pos : kElse.pos = 0 := by simp [kElse]
@[simp] theorem kEnd_typ : kEnd.typ = Tok.end_ := by simp [kEnd]
@[simp] theorem kEnd_pos : kEnd.pos = 0 := by simp [kEnd]
@[simp] theorem kRange_typ : kRange.typ = Tok.range := by simp [kRange]
@[simp] theorem kRange_pos : kRange.pos = 0 := by simp [kRange]
@[simp] theorem comma_typ : comma.typ = Tok.comma := by simp [comma]
@[simp] theorem letTok_typ : letTok.typ = Tok.assign := by simp [letTok]
@[simp] theorem letTok_val : letTok.val = str ":=" := by simp [letTok]

theorem stop7_rd : stop7 rd := Props.C04P.stop7_rightDelim
theorem stop7_comma : stop7 comma := stop7_it _ _ (by decide)
theorem stop7_letTok : stop7 letTok := stop7_it _ _ (by decide)

/-! ### the promised expression trees are never calls (so `command` adds no arguments) -/

mutual
theorem nocall0 : (e : E0) → (tree0 e).nt ≠ NT.call
  | .atom _ => by simp [tree0, PExpr.nt]
  | .paren e => by simpa [tree0] using nocall7 e
theorem nocall7 : (e : E7) → (tree7 e).nt ≠ NT.call
  | .one e => by simpa [tree7] using nocall6 e
  | .tern _ _ _ => by simp [tree7, PExpr.nt]
theorem nocall6 : (e : E6) → (tree6 e).nt ≠ NT.call
  | .one e => by simpa [tree6] using nocall5n e
  | .more _ _ _ _ => by simp [tree6, PExpr.nt]
theorem nocall5n : (e : E5n) → (tree5n e).nt ≠ NT.call
  | .plain e => by simpa [tree5n] using nocall5 e
  | .not _ _ => by simp [tree5n, PExpr.nt]
theorem nocall5 : (e : E5) → (tree5 e).nt ≠ NT.call
  | .one e => by simpa [tree5] using nocall4 e
  | .more _ _ _ _ => by simp [tree5, PExpr.nt]
theorem nocall4 : (e : E4) → (tree4 e).nt ≠ NT.call
  | .one e => by simpa [tree4] using nocall3 e
  | .more _ _ _ _ => by simp [tree4, PExpr.nt]
theorem nocall3 : (e : E3) → (tree3 e).nt ≠ NT.call
  | .one e => by simpa [tree3] using nocall2 e
  | .more _ _ _ _ => by simp [tree3, PExpr.nt]
theorem nocall2 : (e : E2) → (tree2 e).nt ≠ NT.call
  | .one e => by simpa [tree2] using nocall1 e
  | .more _ _ _ _ => by simp [tree2, PExpr.nt]
theorem nocall1 : (e : E1) → (tree1 e).nt ≠ NT.call
  | .base e => by simpa [tree1] using nocall0 e
  | .sign _ _ _ => by simp [tree1, PExpr.nt]
end

theorem command_plain (n : Nat) (b : PSt) (rest : List Item) (e : PExpr) (he : e.nt ≠ NT.call) :
    command cfg n (some e) (mkS b rest rd 1) =
      .ok { line := 1, callLine := 0, base := e, args := none, hasSlot := false } (mkS b rest rd 1) := by
  unfold command
  simp only [bind_apply, peekNonSpace_pushed b rest rd (by simp), andThen_ok, lineNumber_mkS, pure_apply]
  split
  · simp [PExpr.nt] at he
  · simp [bind_apply]

theorem pipeline_plain (n : Nat) (b : PSt) (rest : List Item) (e : PExpr) (he : e.nt ≠ NT.call) :
    pipeline cfg n e (mkS b rest rd 1) =
      .ok { line := 1, cmds := [{ line := 1, callLine := 0, base := e, args := none, hasSlot := false }] }
        (mkS b rest rd 0) := by
  unfold pipeline
  simp only [bind_apply, peekNonSpace_pushed b rest rd (by simp), andThen_ok, lineNumber_mkS, command_plain cfg n b rest e he, get,
    mkS_toks, mkS_pc]
  simp [pipelineLoop, expectOneOf, bind_apply]

/-! ### the space after a keyword -/

theorem nextNonSpace_sp (b : PSt) (t : Item) (ts : List Item) (x : Item) (h : t.pos = 0) (hs : t.typ ≠ Tok.space) :
    nextNonSpace (mkS b (sp :: t :: ts) x 0) = .ok t (mkS b ts t 0) := by
  simp only [nextNonSpace, mkS_toks, mkS_pc, List.length_cons]
  simp [nextNonSpaceLoop, bind_apply, h, hs]

theorem peekNonSpace_sp (b : PSt) (t : Item) (ts : List Item) (x : Item) (h : t.pos = 0) (hs : t.typ ≠ Tok.space) :
    peekNonSpace (mkS b (sp :: t :: ts) x 0) = .ok t (mkS b ts t 1) := by
  simp [peekNonSpace, bind_apply, nextNonSpace_sp b t ts x h hs]

/-- the next non-space item of `s` is the head of `l`; looking at it leaves it pushed back -/
def Peeks (s b : PSt) (l : List Item) : Prop :=
  ∃ t ts, l = t :: ts ∧ t.typ ≠ Tok.space ∧ peekNonSpace s = .ok t (mkS b ts t 1)

theorem Peeks.peek {s b : PSt} {t : Item} {ts : List Item} (h : Peeks s b (t :: ts)) :
    peekNonSpace s = .ok t (mkS b ts t 1) := by
  obtain ⟨_, _, hl, _, h⟩ := h
  cases hl
  exact h

theorem peeks_fresh (b : PSt) (x : Item) {l : List Item} (h : GoodHead l) : Peeks (mkS b l x 0) b l := by
  obtain ⟨t, ts, rfl, h0, hs⟩ := h
  exact ⟨t, ts, rfl, hs, peekNonSpace_cons b t ts x h0 hs⟩

theorem peeks_pushed (b : PSt) (t : Item) (ts : List Item) (hs : t.typ ≠ Tok.space) :
    Peeks (mkS b ts t 1) b (t :: ts) := ⟨t, ts, rfl, hs, peekNonSpace_pushed b ts t hs⟩

theorem peeks_sp (b : PSt) (x : Item) {l : List Item} (h : GoodHead l) : Peeks (mkS b (sp :: l) x 0) b l := by
  obtain ⟨t, ts, rfl, h0, hs⟩ := h
  exact ⟨t, ts, rfl, hs, peekNonSpace_sp b t ts x h0 hs⟩

/-! ### headers: what `assignmentOrExpression` makes of the items between the keyword and `}}` -/

/-- a plain expression and the closing delimiter -/
theorem aoe_expr (c : E7) (n : Nat) (ctx : String) (s0 b : PSt) (rest : List Item) (hn : n ≥ 10 * sz7 c)
    (hp : Peeks s0 b (toks7 c ++ rd :: rest)) :
    assignmentOrExpression cfg n ctx s0 = .ok (.inl (tree7 c)) (mkS b rest rd 1) := by
  obtain ⟨t, ts, hl, _, hp⟩ := hp
  have hx := precedence_after_backup cfg c n ctx b t rd ts rest hn stop7_rd hl
  unfold assignmentOrExpression
  simp only [bind_apply, hp, andThen_ok, lineNumber_mkS, hx, rd_typ, reduceCtorEq, or_self, if_false, backup_mkS, pure_apply]

theorem tree7_atom7 (v : Bytes) : tree7 (atom7 v) = .ident 1 v := rfl
theorem toks7_atom7 (v : Bytes) : toks7 (atom7 v) = [it Tok.identifier v] := rfl
theorem sz7_atom7 (v : Bytes) : sz7 (atom7 v) = 9 := rfl

/-- the left-hand side loop at the last variable: `:=` ends it -/
theorem assignLeft_last (n k : Nat) (ctx : String) (left : List PExpr) (v : Bytes) (s : PSt) :
    assignLeftLoop cfg n ctx (k + 1) left (.ident 1 v) letTok s = .ok (left ++ [.ident 1 v], true) s := by
  simp [assignLeftLoop, assignable, PExpr.nt]

/-- the left-hand side loop at a variable followed by `,` and another variable -/
theorem assignLeft_comma (n k : Nat) (ctx : String) (left : List PExpr) (v w : Bytes) (b : PSt) (u : Item)
    (rest : List Item) (hn : n ≥ 90) (hu : stop7 u) :
    assignLeftLoop cfg n ctx (k + 1) left (.ident 1 v) comma (mkS b (it Tok.identifier w :: u :: rest) comma 0) =
      assignLeftLoop cfg n ctx k (left ++ [.ident 1 v]) (.ident 1 w) u (mkS b rest u 0) := by
  have hw := precedence_and_associativity cfg (atom7 w) n ctx b comma u rest (by simp [sz7_atom7]; omega) hu
  simp only [toks7_atom7, List.singleton_append] at hw
  simp [assignLeftLoop, assignable, PExpr.nt, bind_apply, hw, tree7_atom7]

/-- the right-hand side `e }}` -/
theorem assignRight_one (e : E7) (n k : Nat) (b : PSt) (x : Item) (rest : List Item) (hn : n ≥ 10 * sz7 e) :
    assignRightLoop cfg n (k + 1) [] (mkS b (toks7 e ++ rd :: rest) x 0) = .ok [tree7 e] (mkS b rest rd 1) := by
  simp [assignRightLoop, bind_apply, precedence_and_associativity cfg e n "assignment" b x rd rest hn stop7_rd]

/-- `v := e }}` after `range` -/
theorem aoe_one (v : Bytes) (e : E7) (n : Nat) (b : PSt) (x : Item) (rest : List Item)
    (hn : n ≥ 10 * sz7 e + 90) :
    assignmentOrExpression cfg n "range" (mkS b (sp :: it Tok.identifier v :: letTok :: (toks7 e ++ rd :: rest)) x 0) =
      .ok (.inr { line := 1, isLet := true, lookup := false, left := [.ident 1 v], right := [tree7 e] }) (mkS b rest rd 1) := by
  have hp := peekNonSpace_sp b (it Tok.identifier v) (letTok :: (toks7 e ++ rd :: rest)) x rfl (by simp)
  have hv := precedence_after_backup cfg (atom7 v) n "range" b (it Tok.identifier v) letTok
    (letTok :: (toks7 e ++ rd :: rest)) (toks7 e ++ rd :: rest) (by simp [sz7_atom7]; omega) stop7_letTok rfl
  unfold assignmentOrExpression
  simp only [bind_apply, hp, andThen_ok, lineNumber_mkS, hv, letTok_typ, reduceCtorEq, or_true, if_true, get, mkS_toks, mkS_pc,
    tree7_atom7, assignLeft_last]
  simp [bind_apply, get, PExpr.nt, assignRight_one cfg e n _ b letTok rest (by omega)]

/-- `k,v := e }}` after `range` -/
theorem aoe_two (k v : Bytes) (e : E7) (n : Nat) (b : PSt) (x : Item) (rest : List Item)
    (hn : n ≥ 10 * sz7 e + 90) :
    assignmentOrExpression cfg n "range"
        (mkS b (sp :: it Tok.identifier k :: comma :: it Tok.identifier v :: letTok :: (toks7 e ++ rd :: rest)) x 0) =
      .ok (.inr { line := 1, isLet := true, lookup := false, left := [.ident 1 k, .ident 1 v], right := [tree7 e] })
        (mkS b rest rd 1) := by
  have hp := peekNonSpace_sp b (it Tok.identifier k) (comma :: it Tok.identifier v :: letTok :: (toks7 e ++ rd :: rest)) x rfl (by simp)
  have hk := precedence_after_backup cfg (atom7 k) n "range" b (it Tok.identifier k) comma
    (comma :: it Tok.identifier v :: letTok :: (toks7 e ++ rd :: rest)) (it Tok.identifier v :: letTok :: (toks7 e ++ rd :: rest))
    (by simp [sz7_atom7]; omega) stop7_comma rfl
  unfold assignmentOrExpression
  simp only [bind_apply, hp, andThen_ok, lineNumber_mkS, hk, comma_typ, true_or, if_true, get, mkS_toks, mkS_pc, tree7_atom7,
    assignLeft_comma cfg n _ "range" _ k v b letTok _ (by omega) stop7_letTok, assignLeft_last]
  simp [bind_apply, get, PExpr.nt, assignRight_one cfg e n _ b letTok rest (by omega)]

/-! ### `textOrAction` and `action` on the first items of a statement -/

theorem toa_text (n : Nat) (s0 b : PSt) (v : Bytes) (rest : List Item) (hs : Starts s0 b (it Tok.text v :: rest)) :
    textOrAction cfg (n + 1) s0 = .ok (.text 1 v) (mkS b rest (it Tok.text v) 0) := by
  rw [textOrAction]
  simp [bind_apply, hs.next]

theorem toa_action (n : Nat) (s0 b : PSt) (tl : List Item) (hs : Starts s0 b (ld :: tl)) :
    textOrAction cfg (n + 1) s0 = action cfg n (mkS b tl ld 0) := by
  rw [textOrAction]
  simp [bind_apply, hs.next]

theorem action_if (n : Nat) (b : PSt) (x : Item) (tl : List Item) :
    action cfg (n + 1) (mkS b (kIf :: tl) x 0) = parseControl cfg n true "if" (mkS b tl kIf 0) := by
  rw [action]
  simp [bind_apply]

theorem action_range (n : Nat) (b : PSt) (x : Item) (tl : List Item) :
    action cfg (n + 1) (mkS b (kRange :: tl) x 0) = parseControl cfg n false "range" (mkS b tl kRange 0) := by
  rw [action]
  simp [bind_apply]

theorem expectRightDelim_rd (ctx : String) (b : PSt) (x : Item) (rest : List Item) :
    expectRightDelim ctx (mkS b (rd :: rest) x 0) = .ok rd (mkS b rest rd 0) := by
  simp [expectRightDelim, expect, bind_apply]

theorem expectRightDelim_pushed (ctx : String) (b : PSt) (rest : List Item) :
    expectRightDelim ctx (mkS b rest rd 1) = .ok rd (mkS b rest rd 0) := by
  simp [expectRightDelim, expect, bind_apply]

theorem action_end (n : Nat) (b : PSt) (x : Item) (rest : List Item) :
    action cfg (n + 1) (mkS b (kEnd :: rd :: rest) x 0) = .ok .endM (mkS b rest rd 0) := by
  rw [action]
  simp [bind_apply, expectRightDelim_rd]

theorem action_else (n : Nat) (b : PSt) (x : Item) (rest : List Item) :
    action cfg (n + 1) (mkS b (kElse :: rd :: rest) x 0) = .ok (.elseM 1) (mkS b rest rd 0) := by
  rw [action]
  simp [bind_apply, expectRightDelim_pushed]

theorem action_elseif (n : Nat) (b : PSt) (x : Item) (rest : List Item) :
    action cfg (n + 1) (mkS b (kElse :: sp :: kIf :: rest) x 0) = .ok (.elseM 1) (mkS b rest kIf 1) := by
  rw [action]
  simp [bind_apply, peekNonSpace_sp b kIf rest kElse rfl (by simp)]

/-- `{{ e }}` from behind the opening delimiter -/
theorem action_print (e : E7) (n : Nat) (b : PSt) (x : Item) (rest : List Item) (hn : n ≥ 10 * sz7 e) :
    action cfg (n + 1) (mkS b (toks7 e ++ rd :: rest) x 0) = .ok (printTree (tree7 e)) (mkS b rest rd 0) := by
  obtain ⟨t, ts, hl, h0, ht⟩ := (ehead7 e).append (rd :: rest)
  have hsp : t.typ ≠ Tok.space := by
    rcases ht with h | h | h | h | h <;> simp [h]
  have ha := aoe_expr cfg e n "command" (mkS b ts t 1) b rest hn (hl ▸ peeks_pushed b t ts hsp)
  have hp := pipeline_plain cfg n b rest (tree7 e) (nocall7 e)
  rw [hl, action]
  simp only [bind_apply, nextNonSpace_cons b t ts x h0 hsp, andThen_ok]
  rcases ht with h | h | h | h | h <;>
    simp only [h, reduceCtorEq, if_false, bind_apply, backup_mkS, Nat.zero_add, andThen_ok, peek_pushed, lineNumber_mkS, ha, hp,
      pure_apply, printTree]

/-! ### one turn of the item-list loop -/

theorem loop_step_stmt (k : Nat) (terms : List Marker) (acc : List PStmt) (s0 b s1 : PSt) (t : Item) (ts : List Item)
    (nd : PStmt) (hp : Peeks s0 b (t :: ts)) (he : t.typ ≠ Tok.eof)
    (hx : textOrAction cfg k (mkS b ts t 1) = .ok nd s1) (hm : nd.marker = .none) :
    itemListLoop cfg (k + 1) terms acc s0 = itemListLoop cfg k terms (acc ++ [nd]) s1 := by
  rw [itemListLoop]
  simp [bind_apply, hp.peek, he, hx, hm]

theorem loop_step_close (k : Nat) (terms : List Marker) (acc : List PStmt) (s0 b s1 : PSt) (t : Item) (ts : List Item)
    (nd : PStmt) (hp : Peeks s0 b (t :: ts)) (he : t.typ ≠ Tok.eof)
    (hx : textOrAction cfg k (mkS b ts t 1) = .ok nd s1) (hm : nd.marker ≠ .none)
    (ht : inTerminators nd.marker terms = true) :
    itemListLoop cfg (k + 1) terms acc s0 = .ok (acc, nd) s1 := by
  rw [itemListLoop]
  simp [bind_apply, hp.peek, he, hx, hm, ht]

theorem itemList_of_loop (m : Nat) (terms : List Marker) (s0 b sf : PSt) (t : Item) (ts : List Item)
    (nodes : List PStmt) (nd : PStmt) (hp : Peeks s0 b (t :: ts))
    (hx : itemListLoop cfg m terms [] (mkS b ts t 1) = .ok (nodes, nd) sf) :
    itemList cfg (m + 1) terms s0 = .ok (1, nodes, nd) sf := by
  rw [itemList]
  simp [bind_apply, hp.peek, hx]

/-- a statement starts with a text item or with `{{` -/
def StmtHead (l : List Item) : Prop :=
  ∃ t ts, l = t :: ts ∧ t.pos = 0 ∧ (t.typ = Tok.text ∨ t.typ = Tok.leftDelim)

theorem StmtHead.append {l : List Item} (h : StmtHead l) (m : List Item) : StmtHead (l ++ m) := by
  obtain ⟨t, ts, rfl, h0, hs⟩ := h
  exact ⟨t, ts ++ m, rfl, h0, hs⟩

theorem StmtHead.good {l : List Item} (h : StmtHead l) : GoodHead l := by
  obtain ⟨t, ts, rfl, h0, hs⟩ := h
  exact ⟨t, ts, rfl, h0, by rcases hs with h | h <;> simp [h]⟩

theorem headS (s : S) : StmtHead (toksS s) := by
  cases s with
  | text v => exact ⟨_, _, rfl, rfl, Or.inl rfl⟩
  | print e => exact ⟨_, _, rfl, rfl, Or.inr rfl⟩
  | ifS c thn els => exact ⟨_, _, rfl, rfl, Or.inr rfl⟩
  | rangeS v e body els => exact ⟨_, _, rfl, rfl, Or.inr rfl⟩

theorem headL (l : L) (tl : List Item) : StmtHead (toksL l ++ ld :: tl) := by
  cases l with
  | nil => exact ⟨_, _, rfl, rfl, Or.inr rfl⟩
  | cons s l => simp only [toksL, List.append_assoc]; exact (headS s).append _

def lenL : L → Nat
  | .nil => 0
  | .cons _ l => lenL l + 1

theorem lenL_le : (l : L) → lenL l + 1 ≤ sizeL l
  | .nil => by simp [lenL, sizeL]
  | .cons s l => by have := lenL_le l; simp [lenL, sizeL]; omega

theorem marker_treeS (s : S) : (treeS s).marker = .none := by
  cases s <;> simp [treeS, printTree, PStmt.marker]

/-- what is proved of a statement: `textOrAction` reads exactly its spelling -/
@[reducible] def StmtOK (s : S) : Prop := ∀ (n : Nat) (s0 b : PSt) (rest : List Item),
    n ≥ 10 * sizeS s → Starts s0 b (toksS s ++ rest) →
    textOrAction cfg n s0 = .ok (treeS s) (mkS b rest (lastS s) 0)

/-- what is proved of a list: the loop adds its trees and goes on at the `{{` behind it (a list inside a control
    structure is always followed by the action that closes it; the top-level list, followed by eof, is in Props/C05P.lean) -/
@[reducible] def ListOK (l : L) : Prop := ∀ (k : Nat) (terms : List Marker) (acc : List PStmt) (s0 b : PSt) (tl : List Item),
    k + lenL l ≥ 10 * sizeL l → Peeks s0 b (toksL l ++ ld :: tl) →
    ∃ s1, Peeks s1 b (ld :: tl) ∧
      itemListLoop cfg (k + lenL l) terms acc s0 = itemListLoop cfg k terms (acc ++ treeL l) s1

theorem list_nil : ListOK cfg .nil := by
  intro k terms acc s0 b tl _ hp
  exact ⟨s0, by simpa [toksL] using hp, by simp [lenL, treeL]⟩

theorem list_cons (s : S) (l : L) (hs : StmtOK cfg s) (hl : ListOK cfg l) : ListOK cfg (.cons s l) := by
  intro k terms acc s0 b tl hn hp
  obtain ⟨t, ts, hts, h0, hty⟩ := headS s
  have hsp : t.typ ≠ Tok.space := by rcases hty with h | h <;> simp [h]
  have heof : t.typ ≠ Tok.eof := by rcases hty with h | h <;> simp [h]
  have hlen := lenL_le l
  simp only [lenL, sizeL] at hn
  simp only [toksL, List.append_assoc] at hp
  have hx := hs (k + lenL l) (mkS b (ts ++ (toksL l ++ ld :: tl)) t 1) b (toksL l ++ ld :: tl)
    (by omega) (by rw [hts]; exact starts_pushed b t _ hsp)
  rw [hts] at hp
  have h1 := loop_step_stmt cfg (k + lenL l) terms acc s0 b _ t _ _ hp heof hx (marker_treeS s)
  obtain ⟨s1, hp1, h2⟩ := hl k terms (acc ++ [treeS s]) (mkS b (toksL l ++ ld :: tl) (lastS s) 0) b tl
    (by omega) (peeks_fresh b _ (headL l tl).good)
  refine ⟨s1, hp1, ?_⟩
  have e1 : k + lenL (L.cons s l) = k + lenL l + 1 := by simp [lenL]; omega
  rw [e1, h1, h2]
  simp [treeL]

/-- a list and the closing action `{{ tl` behind it, which `action` turns into the marker `nd` -/
theorem itemList_close (l : L) (hl : ListOK cfg l) (m : Nat) (terms : List Marker) (s0 b sf : PSt) (tl : List Item)
    (nd : PStmt) (hm : m ≥ 10 * sizeL l + 3) (hp : Peeks s0 b (toksL l ++ ld :: tl))
    (ha : ∀ k, action cfg (k + 1) (mkS b tl ld 0) = .ok nd sf) (hnd : nd.marker ≠ .none)
    (ht : inTerminators nd.marker terms = true) :
    itemList cfg (m + 1) terms s0 = .ok (1, treeL l, nd) sf := by
  have hlen := lenL_le l
  obtain ⟨t, ts, hts, hsp, hpk⟩ := hp
  refine itemList_of_loop cfg m terms s0 b _ t ts _ _ ⟨t, ts, rfl, hsp, hpk⟩ ?_
  obtain ⟨k, rfl⟩ : ∃ k, m = (k + 3) + lenL l := ⟨m - lenL l - 3, by omega⟩
  obtain ⟨s1, hp1, h2⟩ := hl (k + 3) terms [] (mkS b ts t 1) b tl (by omega)
    (by rw [hts]; exact peeks_pushed b t ts hsp)
  rw [h2, loop_step_close cfg (k + 2) terms _ s1 b sf ld tl nd hp1 (by simp) ?_ hnd ht]
  · simp
  · rw [toa_action cfg (k + 1) _ b _ (starts_pushed b ld _ (by simp)), ha]

/-! ### `parseControl`: the header, then the bodies -/

/-- `parseControl` from behind the header's closing delimiter, with the line it read before the header put in as 1
    (what `lineNumber` answers at the grammar's items, which all sit at position 0) -/
def ctrlTail (n : Nat) (allowElseIf : Bool) (set : Option PSet) (e : Option PExpr) : PM PStmt := do
  let (ll, list, nx) ← itemList cfg n [.else_, .end_]
  let els ← (if nx.marker = .else_ then do
      let pk ← peek
      if allowElseIf ∧ pk.typ = Tok.if_ then do
        let _ ← next
        let el ← lineNumber
        let inner ← parseControl cfg n true "if"
        pure (some (el, [inner]))
      else do
        let (el, elist, _) ← itemList cfg n [.end_]
        pure (some (el, elist))
    else pure none)
  pure (.branch allowElseIf 1 set e ll list els)

/-- a header that is a plain expression -/
theorem parseControl_inl (n : Nat) (allow : Bool) (ctx : String) (b : PSt) (x : Item) (tl rest : List Item) (e : PExpr)
    (h : assignmentOrExpression cfg n ctx (mkS b tl x 0) = .ok (.inl e) (mkS b rest rd 1)) :
    parseControl cfg (n + 1) allow ctx (mkS b tl x 0) = ctrlTail cfg n allow none (some e) (mkS b rest rd 0) := by
  rw [parseControl]
  simp [bind_apply, h, expectRightDelim_pushed, ctrlTail]

/-- a `range` header that declares variables -/
theorem parseControl_inr (n : Nat) (allow : Bool) (b : PSt) (x : Item) (tl rest : List Item) (st : PSet)
    (h : assignmentOrExpression cfg n "range" (mkS b tl x 0) = .ok (.inr st) (mkS b rest rd 1)) :
    parseControl cfg (n + 1) allow "range" (mkS b tl x 0) = ctrlTail cfg n allow (some st) none (mkS b rest rd 0) := by
  rw [parseControl]
  simp [bind_apply, h, expectRightDelim_pushed, ctrlTail]

theorem hdr_if (c : E7) (n : Nat) (b : PSt) (x : Item) (rest : List Item) (hn : n ≥ 10 * sz7 c) :
    parseControl cfg (n + 1) true "if" (mkS b (sp :: (toks7 c ++ rd :: rest)) x 0) =
      ctrlTail cfg n true none (some (tree7 c)) (mkS b rest rd 0) := by
  exact parseControl_inl cfg n true "if" b x _ rest _
    (aoe_expr cfg c n "if" _ b rest hn (peeks_sp b x ((ehead7 c).good.append _)))

theorem hdr_range (v : RangeVars) (e : E7) (n : Nat) (b : PSt) (x : Item) (rest : List Item) (hn : n ≥ 10 * sz7 e + 90) :
    parseControl cfg (n + 1) false "range" (mkS b (sp :: (toksV v ++ (toks7 e ++ rd :: rest))) x 0) =
      ctrlTail cfg n false (setV v (tree7 e)) (exprV v (tree7 e)) (mkS b rest rd 0) := by
  cases v with
  | none =>
    exact parseControl_inl cfg n false "range" b x _ rest _
      (aoe_expr cfg e n "range" _ b rest (by omega) (peeks_sp b x ((ehead7 e).good.append _)))
  | one v => exact parseControl_inr cfg n false b x _ rest _ (aoe_one cfg v e n b x rest hn)
  | two k v => exact parseControl_inr cfg n false b x _ rest _ (aoe_two cfg k v e n b x rest hn)

/-- what is proved of a body `thn` and a continuation spelled `toks` whose tree is `tree`, from behind the header -/
@[reducible] def TailOK (allow : Bool) (thn : L) (toks : List Item) (tree : Option (Nat × List PStmt)) (sz : Nat) : Prop :=
  ∀ (n : Nat) (set : Option PSet) (e : Option PExpr) (b : PSt) (x : Item) (rest : List Item),
    n ≥ 10 * (sizeL thn + sz) →
    ctrlTail cfg n allow set e (mkS b (toksL thn ++ (toks ++ rest)) x 0) =
      .ok (.branch allow 1 set e 1 (treeL thn) tree) (mkS b rest rd 0)

/-- the body and `{{end}}` -/
theorem tail_none (allow : Bool) (l : L) (hl : ListOK cfg l) : TailOK cfg allow l endToks none 1 := by
  intro n set e b x rest hn
  obtain ⟨m, rfl⟩ : ∃ m, n = m + 1 := ⟨n - 1, by omega⟩
  have h := itemList_close cfg l hl m [.else_, .end_] _ b _ _ _ (by omega) (peeks_fresh b x (headL l _).good)
    (fun k => action_end cfg k b ld rest) (by simp [PStmt.marker]) (by decide)
  simp [ctrlTail, bind_apply, endToks, h, PStmt.marker]

/-- the body, `{{else}}`, the else list and `{{end}}` -/
theorem tail_els (allow : Bool) (l l2 : L) (hl : ListOK cfg l) (hl2 : ListOK cfg l2) :
    TailOK cfg allow l (ld :: kElse :: rd :: (toksL l2 ++ endToks)) (some (1, treeL l2)) (sizeL l2 + 2) := by
  intro n set e b x rest hn
  obtain ⟨m, rfl⟩ : ∃ m, n = m + 1 := ⟨n - 1, by omega⟩
  have h := itemList_close cfg l hl m [.else_, .end_] _ b _ _ _ (by omega) (peeks_fresh b x (headL l _).good)
    (fun k => action_else cfg k b ld (toksL l2 ++ ld :: kEnd :: rd :: rest)) (by simp [PStmt.marker]) (by decide)
  obtain ⟨t, ts, hts, h0, hty⟩ := headL l2 (kEnd :: rd :: rest)
  have hsp : t.typ ≠ Tok.space := by rcases hty with h | h <;> simp [h]
  have hif : t.typ ≠ Tok.if_ := by rcases hty with h | h <;> simp [h]
  have h2 := itemList_close cfg l2 hl2 m [.end_] (mkS b ts t 1) b _ _ _ (by omega)
    (by rw [hts]; exact peeks_pushed b t ts hsp) (fun k => action_end cfg k b ld rest) (by simp [PStmt.marker]) (by decide)
  simp only [endToks, List.cons_append, List.nil_append, List.append_assoc]
  rw [hts] at h ⊢
  simp [ctrlTail, bind_apply, h, PStmt.marker, h0, hif, h2]

/-- what is proved of an `if` with condition `c`, body `thn` and continuation `els`, from behind the keyword -/
@[reducible] def CtrlIf (c : E7) (thn : L) (els : Else) : Prop := ∀ (n : Nat) (b : PSt) (x : Item) (rest : List Item),
    n ≥ 10 * (sz7 c + sizeL thn + sizeElse els) + 5 →
    parseControl cfg n true "if" (mkS b (sp :: (toks7 c ++ rd :: (toksL thn ++ (toksElse els ++ rest)))) x 0) =
      .ok (.branch true 1 none (some (tree7 c)) 1 (treeL thn) (treeElse els)) (mkS b rest rd 0)

/-- the body, `{{else if`, and the rest of the chain -/
theorem tail_elseif (l : L) (hl : ListOK cfg l) (c : E7) (thn : L) (els : Else) (hi : CtrlIf cfg c thn els) :
    TailOK cfg true l (toksElse (.elseIf c thn els)) (treeElse (.elseIf c thn els)) (sizeElse (.elseIf c thn els)) := by
  intro n set e b x rest hn
  simp only [sizeElse] at hn
  obtain ⟨m, rfl⟩ : ∃ m, n = m + 1 := ⟨n - 1, by omega⟩
  have h := itemList_close cfg l hl m [.else_, .end_] _ b _ _ _ (by omega) (peeks_fresh b x (headL l _).good)
    (fun k => action_elseif cfg k b ld (sp :: (toks7 c ++ rd :: (toksL thn ++ (toksElse els ++ rest)))))
    (by simp [PStmt.marker]) (by decide)
  simp only [toksElse, treeElse, List.cons_append, List.append_assoc]
  simp [ctrlTail, bind_apply, h, PStmt.marker, hi (m + 1) b kIf rest (by omega)]

/-! ### the statements, case by case (the recursive occurrences as hypotheses) -/

theorem ctrl_if (c : E7) (thn : L) (els : Else) (h : TailOK cfg true thn (toksElse els) (treeElse els) (sizeElse els)) :
    CtrlIf cfg c thn els := by
  intro n b x rest hn
  obtain ⟨m, rfl⟩ : ∃ m, n = m + 1 := ⟨n - 1, by omega⟩
  rw [hdr_if cfg c m b x _ (by omega)]
  exact h m none _ b rd rest (by omega)

theorem stmt_text (v : Bytes) : StmtOK cfg (.text v) := by
  intro n s0 b rest hn hs
  obtain ⟨m, rfl⟩ : ∃ m, n = m + 1 := ⟨n - 1, by simp [sizeS] at hn; omega⟩
  exact toa_text cfg m s0 b v rest (by simpa [toksS] using hs)

theorem stmt_print (e : E7) : StmtOK cfg (.print e) := by
  intro n s0 b rest hn hs
  simp only [sizeS] at hn
  obtain ⟨m, rfl⟩ : ∃ m, n = m + 2 := ⟨n - 2, by omega⟩
  simp only [toksS, List.cons_append, List.append_assoc, List.nil_append] at hs
  rw [toa_action cfg (m + 1) s0 b _ hs]
  exact action_print cfg e m b ld rest (by omega)

theorem stmt_if (c : E7) (thn : L) (els : Else) (h : CtrlIf cfg c thn els) : StmtOK cfg (.ifS c thn els) := by
  intro n s0 b rest hn hs
  simp only [sizeS] at hn
  obtain ⟨m, rfl⟩ : ∃ m, n = m + 2 := ⟨n - 2, by omega⟩
  simp only [toksS, List.cons_append, List.append_assoc] at hs
  rw [toa_action cfg (m + 1) s0 b _ hs, action_if]
  exact h m b kIf rest (by omega)

theorem stmt_range (v : RangeVars) (e : E7) (body : L) (els : RElse)
    (h : TailOK cfg false body (toksR els) (treeR els) (sizeR els)) : StmtOK cfg (.rangeS v e body els) := by
  intro n s0 b rest hn hs
  simp only [sizeS] at hn
  obtain ⟨m, rfl⟩ : ∃ m, n = m + 3 := ⟨n - 3, by omega⟩
  simp only [toksS, List.cons_append, List.append_assoc] at hs
  rw [toa_action cfg (m + 2) s0 b _ hs, action_range, hdr_range cfg v e m b kRange _ (by omega)]
  exact h m _ _ b rd rest (by omega)

/-! ### the ladder: mutual structural recursion over the grammar -/

mutual
theorem stmtS : (s : S) → StmtOK cfg s
  | .text v => stmt_text cfg v
  | .print e => stmt_print cfg e
  | .ifS c thn els => stmt_if cfg c thn els (ctrlE els c thn (listL thn))
  | .rangeS v e body .none => stmt_range cfg v e body .none (tail_none cfg false body (listL body))
  | .rangeS v e body (.els l) => stmt_range cfg v e body (.els l) (tail_els cfg false body l (listL body) (listL l))
theorem listL : (l : L) → ListOK cfg l
  | .nil => list_nil cfg
  | .cons s l => list_cons cfg s l (stmtS s) (listL l)
theorem ctrlE : (els : Else) → ∀ (c : E7) (thn : L), ListOK cfg thn → CtrlIf cfg c thn els
  | .none, c, thn, h => ctrl_if cfg c thn .none (tail_none cfg true thn h)
  | .els l, c, thn, h => ctrl_if cfg c thn (.els l) (tail_els cfg true thn l h (listL l))
  | .elseIf c' thn' els', c, thn, h =>
    ctrl_if cfg c thn (.elseIf c' thn' els') (tail_elseif cfg thn h c' thn' els' (ctrlE els' c' thn' (listL thn')))
end

/-- the item that ends the template (the top-level loop of `parseTemplate` is in Props/C05P.lean) -/
def eofI : Item := it Tok.eof []

@[simp] theorem eofI_typ : eofI.typ = Tok.eof := by simp [eofI]
@[simp] theorem eofI_pos : eofI.pos = 0 := by simp [eofI]

end JetVerif.Parse
