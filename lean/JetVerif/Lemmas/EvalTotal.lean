/-
  C12, totality part: from a well-formed syntax tree the only `crash` outcome (= a panic that
  `Template.Execute` re-raises) of the evaluator is a panic raised by a called Go function.

  Classification of the `crash "<msg>"` sites of Model/Eval.lean:

  | function                | message                                               | group | discharged by |
  |-------------------------|-------------------------------------------------------|-------|---------------|
  | newScope                | nil pointer dereference (newScope on nil scope)       | (a)   | EvalScope (`ScopeMsg`) |
  | newScope/letVar/setBlocks/setValue/letGlobal | dangling scope                   | (a)   | EvalScope |
  | releaseScope            | nil pointer dereference (releaseScope on nil scope)   | (a)   | EvalScope |
  | letVar/setBlocks/letGlobal | nil pointer dereference                            | (a)   | EvalScope |
  | letVar/letGlobal        | assignment to entry in nil map                        | (a)   | EvalScope |
  | setValue                | unreachable                                           | (a)   | EvalScope |
  | evalNumericComparative  | unreachable (twice)                                   | (b)   | `evalNumericComparative_pcr` (same string as setValue's) |
  | resolveIndex            | unreachable index (three times)                       | (b)   | `indexArg_lt` (indexArg returns an index below the length) |
  | evalMultiplicative      | unreachable: promotion without float                  | (b)   | `rightF_pcr`: promotion is asked for only when the right side is a float |
  | evalMultiplicative      | unreachable operator                                  | (c)   | `MulOp op` (multiplicativeLoop only builds mul/div/mod nodes) |
  | applyGoFunc "repeat"    | strings: negative Repeat count                        | (d)   | REACHABLE: `CalleePanic` |
  | applyGoFunc "cat"       | unreachable cat arg                                   | (b)   | `evaluateArgs` converts every argument to the parameter type (`Typed`) |
  | applyGoFunc "sum"       | unreachable sum arg                                   | (b)   | idem |
  | applyMethod "Cat"       | unreachable Cat arg                                   | (b)   | idem |
  | evalArgsLoop/evaluateArgs | unreachable: too many arguments                     | (b)   | the arity test of `evaluateArgs` (`slot + remaining ≤ params.length` or variadic) |
  | evalArgsLoop            | nil pointer dereference (no piped value)              | (c)   | `SlotOk` (a `_` argument sets hasSlot) + the hasSlot/piped test of `evaluateArgs` |
  | callValue               | unreachable: call of non-func                         | (b)   | every caller tests `kindIsFunc` first |
  | evalExprF .slice        | unreachable: length/slice of a value that cannot be sliced | (b) | the kind test before the bounds are evaluated (`evalExprF_ok`, for every `Walk`) |
  | executeSet              | interface conversion in executeSet                    | (c)   | `LeftOk`/`RangeLeftOk` (left sides are identifiers, fields, chains or `_`) |
  | assignOne               | interface conversion: not *IdentifierNode             | (c)   | `LeftOk true` (`:=` only declares identifiers) |
  | assignLoop              | index out of range [i] in assignment                  | (c)   | `SetWf` (at least one right side per left side) |
  | executeAssign           | index out of range in lookup assignment               | (c)   | `SetWf` (lookup form: two left sides, a right side) |
  | evalPipeline            | index out of range [0] with length 0                  | (c)   | `PipeWf` (a pipeline has a first command) |
  | rangeBind               | index out of range                                    | (c)   | `RangeSetWf` (a range assignment has a left side) |
  | execRange               | index out of range [0] with length 0                  | (c)   | `RangeSetWf` (a range assignment has a right side) |
  | execRange               | nil expression in range                               | (c)   | `RangeHeadWf` (a range without assignment has an expression) |
  | execYield               | nil pointer dereference (yield without parameter list)| (c)   | `StmtWf` of yield (only `yield content` lacks the list) |

  Groups: (a) the scope primitives' own messages; (b) unreachable on any syntax, because of a test the
  evaluator itself makes; (c) excluded by well-formed syntax (Lemmas/EvalWf.lean); (d) reachable.

  No `ValWf` hypothesis is needed: `Val` carries no syntax, and every group-(b) site that looks at
  a value is guarded by a test on that same value.

  Architecture: `Tot m` = from a runtime whose block tables and content closures hold well-formed
  syntax (`RWF`), every outcome of `m` leaves such a runtime, and a `crash` outcome carries a
  callee panic or one of the scope primitives' messages (`Allowed`; `ScopeMsg` is a list read off the
  model, Lemmas/EvalEqns.lean); the latter are excluded separately by Lemmas/EvalScope.lean (`Scoped`),
  so the two developments compose in Props/C12T.lean without either needing, or importing, the other.

  `Tot` is a `Walk` (Lemmas/EvalWalk.lean), which settles the functions without a crash site of
  their own; the sites of the pure helpers are settled in Lemmas/EvalHelpers.lean (`PTot` is `PCr`
  at `Allowed`).  Proved here, function by function, is what needs well-formed syntax.
-/
import JetVerif.Lemmas.EvalWalk
import JetVerif.Lemmas.EvalWf

namespace JetVerif.Eval

/-- the only panic Execute re-raises is one raised by a called Go function -/
def CalleePanic (m : String) : Prop := m = "strings: negative Repeat count"

instance (m : String) : Decidable (CalleePanic m) := by unfold CalleePanic; infer_instance

/-- what this development lets through: callee panics, and the scope primitives' messages (which
    Lemmas/EvalScope.lean excludes from a well-formed runtime) -/
def Allowed (m : String) : Prop := CalleePanic m ∨ ScopeMsg m

instance (m : String) : Decidable (Allowed m) := by unfold Allowed; infer_instance

/-! ### the runtime invariant: block tables and content closures hold well-formed syntax -/

def ClosureWf : Closure → Prop
  | .mk body _ outer => StmtsWf body ∧
      (match outer with
       | none => True
       | some c => ClosureWf c)

theorem ClosureWf.mk_iff (body : List Stmt) (sc : List Nat) (outer : Option Closure) :
    ClosureWf (.mk body sc outer) ↔ StmtsWf body ∧ (∀ c, outer = some c → ClosureWf c) := by
  cases outer <;> simp [ClosureWf]

structure RWF (rt : RT) : Prop where
  blocks : ∀ f ∈ rt.frames, BlocksWf f.blocks
  content : ∀ c, rt.content = some c → ClosureWf c

/-- frames of one runtime, content of another (restores) -/
theorem RWF.mix {a b c : RT} (hb : RWF b) (ha : RWF a) (hf : c.frames = b.frames) (hc : c.content = a.content) :
    RWF c :=
  ⟨by rw [hf]; exact hb.blocks, by rw [hc]; exact ha.content⟩

theorem RWF.congr {a b : RT} (h : RWF a) (hf : b.frames = a.frames) (hc : b.content = a.content) : RWF b :=
  h.mix h hf hc

def TPost {α} (Q : α → Prop) : Res α → Prop
  | .ok a rt' => RWF rt' ∧ Q a
  | .err _ rt' => RWF rt'
  | .crash s rt' => Allowed s ∧ RWF rt'
  | .fuel => True
  | .unsupported _ => True

/-- the invariant, with a postcondition on the result -/
structure TotQ {α} (Q : α → Prop) (m : M α) : Prop where
  post : ∀ rt, RWF rt → TPost Q (m rt)

abbrev Tot {α} (m : M α) : Prop := TotQ (fun _ => True) m

theorem TotQ.bind {α β} {Q : α → Prop} {Q' : β → Prop} {m : M α} {f : α → M β} (hm : TotQ Q m)
    (hf : ∀ a, Q a → TotQ Q' (f a)) : TotQ Q' (m >>= f) :=
  ⟨fun rt hwf => sat_bind.mpr <| Res.Sat.mono (hm.post rt hwf) (fun a rt1 h1 => (hf a h1.2).post rt1 h1.1)
    (fun _ h1 => h1) (fun _ _ h1 => h1)⟩

theorem Tot.bind {α β} {m : M α} {f : α → M β} (hm : Tot m) (hf : ∀ a, Tot (f a)) : Tot (m >>= f) :=
  TotQ.bind hm fun a _ => hf a

theorem totq_pure {α} {Q : α → Prop} (a : α) (h : Q a) : TotQ Q (pure a : M α) := ⟨fun _ hr => ⟨hr, h⟩⟩
theorem tot_pure {α} (a : α) : Tot (pure a : M α) := totq_pure a trivial
theorem tot_throwErr {α} (e : Err) : Tot (throwErr e : M α) := ⟨fun _ h => h⟩
theorem tot_outOfFuel {α} : Tot (outOfFuel : M α) := ⟨fun _ _ => trivial⟩
theorem totq_errAt {α} {Q : α → Prop} (l : Loc) (s : String) : TotQ Q (errAt l s : M α) := ⟨fun _ h => h⟩
theorem totq_unsupported {α} {Q : α → Prop} (s : String) : TotQ Q (unsupported s : M α) := ⟨fun _ _ => trivial⟩

theorem tot_crash {α} (s : String) (hs : Allowed s) : Tot (crash s : M α) := ⟨fun _ h => ⟨hs, h⟩⟩

theorem tot_of_same {α} {m : M α} (h : KeepsScopes m) : Tot m :=
  ⟨fun rt hw => Res.Sat.mono (h rt) (fun _ _ hs => ⟨hw.congr hs.1 hs.2.2, trivial⟩) (fun _ hs => hw.congr hs.1 hs.2.2)
    (fun _ _ h => h.elim)⟩

theorem tot_modify_log (f : List LogE → List LogE) : Tot (modifyRT fun rt => { rt with log := f rt.log }) :=
  tot_of_same fun _ => ⟨rfl, rfl, rfl⟩

theorem tot_modify_ctx (v : Val) : Tot (modifyRT fun rt => { rt with ctx := v }) :=
  tot_of_same fun _ => ⟨rfl, rfl, rfl⟩

/-! ### scope primitives: their crash messages are `Allowed`; frames keep well-formed blocks -/

theorem rwf_setFrame {rt : RT} (h : RWF rt) (id : Nat) (f : Frame) (hf : BlocksWf f.blocks) :
    RWF (setFrame rt id f) := by
  refine ⟨?_, h.content⟩
  intro g hg
  simp only [setFrame] at hg
  rcases List.mem_or_eq_of_mem_set hg with hg | rfl
  · exact h.blocks g hg
  · exact hf

theorem tot_letVar (n : Bytes) (v : Val) : Tot (letVar n v) := by
  refine ⟨fun rt h => ?_⟩
  unfold letVar
  split
  · exact ⟨.inr (by simp [ScopeMsg]), h⟩
  · split
    · exact ⟨.inr (by simp [ScopeMsg]), h⟩
    · rename_i f hf
      split
      · exact ⟨.inr (by simp [ScopeMsg]), h⟩
      · exact ⟨rwf_setFrame h _ _ (h.blocks f (frameAt_mem hf)), trivial⟩

theorem tot_setBlocks (b : List (Bytes × BlockN)) (hb : BlocksWf b) : Tot (setBlocks b) := by
  refine ⟨fun rt h => ?_⟩
  unfold setBlocks
  split
  · exact ⟨.inr (by simp [ScopeMsg]), h⟩
  · split
    · exact ⟨.inr (by simp [ScopeMsg]), h⟩
    · exact ⟨rwf_setFrame h _ _ hb, trivial⟩

theorem tot_setValue (n : Bytes) (v : Val) : Tot (setValue n v) := by
  refine ⟨fun rt h => ?_⟩
  rcases setValue_cases n v rt with ⟨_, e⟩ | ⟨id, w, f, vs, _, hf, _, e⟩ <;> rw [e]
  · exact ⟨h, trivial⟩
  · exact ⟨rwf_setFrame h _ _ (h.blocks f (frameAt_mem hf)), trivial⟩

theorem tot_letGlobal (n : Bytes) (v : Val) : Tot (letGlobal n v) := by
  refine ⟨fun rt h => ?_⟩
  unfold letGlobal
  split
  · exact ⟨.inr (by simp [ScopeMsg]), h⟩
  · split
    · exact ⟨.inr (by simp [ScopeMsg]), h⟩
    · rename_i f hf
      split
      · exact ⟨.inr (by simp [ScopeMsg]), h⟩
      · exact ⟨rwf_setFrame h _ _ (h.blocks f (frameAt_mem hf)), trivial⟩

theorem tot_newScope : Tot newScope := by
  refine ⟨fun rt h => ?_⟩
  unfold newScope
  split
  · exact ⟨.inr (by simp [ScopeMsg]), h⟩
  · split
    · exact ⟨.inr (by simp [ScopeMsg]), h⟩
    · rename_i f hf
      exact ⟨⟨List.forall_mem_append.mpr ⟨h.blocks, List.forall_mem_singleton.mpr (h.blocks f (frameAt_mem hf))⟩,
        h.content⟩, trivial⟩

theorem tot_releaseScope : Tot releaseScope := by
  refine ⟨fun rt h => ?_⟩
  unfold releaseScope
  split
  · exact ⟨.inr (by simp [ScopeMsg]), h⟩
  · exact ⟨h.congr rfl rfl, trivial⟩

theorem rwf_popScope {rt : RT} (h : RWF rt) : RWF (popScope rt) :=
  h.congr (popScope_fields rt).2.1 (popScope_fields rt).2.2.2.1

theorem getBlockChain_wf (rt : RT) (h : RWF rt) (name : Bytes) :
    ∀ (l : List Nat) (b : BlockN), getBlockChain rt name l = some b → BlockWf b
  | id :: rest, b, hb => by
    unfold getBlockChain at hb
    split at hb
    · cases hb
    · next f hf =>
      split at hb
      · next b' hb' =>
        cases hb
        exact h.blocks f (frameAt_mem hf) _ (alookup_mem hb')
      · exact getBlockChain_wf rt h name rest b hb

theorem totq_getBlock (n : Bytes) : TotQ (fun o => ∀ b, o = some b → BlockWf b) (getBlock n) :=
  ⟨fun rt h => ⟨h, fun b hb => getBlockChain_wf rt h n rt.scope b hb⟩⟩

theorem tot_deferred {α} {Q : α → Prop} (fin : RT → RT) (hfin : ∀ rt, RWF rt → RWF (fin rt)) {m : M α}
    (hm : TotQ Q m) : TotQ Q (deferred fin m) :=
  ⟨fun rt h => sat_deferred.mpr <| Res.Sat.mono (hm.post rt h) (fun _ _ h1 => ⟨hfin _ h1.1, h1.2⟩)
    (fun _ h1 => hfin _ h1) (fun _ _ h1 => ⟨h1.1, hfin _ h1.2⟩)⟩

theorem tot_withNewScopeND {α} {body : M α} (hb : Tot body) : Tot (withNewScopeND body) := by
  unfold withNewScopeND
  exact tot_newScope.bind fun _ => hb.bind fun a => tot_releaseScope.bind fun _ => tot_pure a

theorem tot_withNewScopeD {α} {body : M α} (hb : Tot body) : Tot (withNewScopeD body) := by
  unfold withNewScopeD
  exact tot_newScope.bind fun _ => tot_deferred popScope (fun _ h => rwf_popScope h) hb

theorem tot_withCtxND {α} (v : Val) {body : M α} (hb : Tot body) : Tot (withCtxND v body) :=
  ⟨fun rt h => sat_withCtxND.mpr <| Res.Sat.mono (hb.post { rt with ctx := v } (h.congr rfl rfl))
    (fun _ _ h1 => ⟨h1.1.congr rfl rfl, trivial⟩) (fun _ h1 => h1) (fun _ _ h1 => h1)⟩

theorem tot_withCtxD {α} {e : M Val} {body : M α} (he : Tot e) (hb : Tot body) : Tot (withCtxD e body) := by
  refine ⟨fun rt h => ?_⟩
  unfold withCtxD
  exact (tot_deferred (fun rt' => { rt' with ctx := rt.ctx }) (fun _ h' => h'.congr rfl rfl)
    (he.bind fun nv => (tot_modify_ctx nv).bind fun _ => hb)).post rt h

theorem tot_withWriterD {α} (w' : Wr) {body : M α} (hb : Tot body) : Tot (withWriterD w' body) := by
  refine ⟨fun rt h => ?_⟩
  unfold withWriterD
  exact (tot_deferred (fun rt' => { rt' with writer := rt.writer }) (fun _ h' => h'.congr rfl rfl)
    hb).post { rt with writer := w' } (h.congr rfl rfl)

/-- `st.content = c; body; st.content = mycontent` for a closure holding well-formed syntax -/
theorem tpost_withContentND {α} (c : Option Closure) {body : M α} (hb : Tot body) (rt : RT) (h : RWF rt)
    (hc : ∀ c', c = some c' → ClosureWf c') : TPost (fun _ => True) (withContentND c body rt) :=
  sat_withContentND.mpr <| Res.Sat.mono (hb.post { rt with content := c } ⟨h.blocks, hc⟩)
    (fun _ _ h1 => ⟨h1.1.mix h rfl rfl, trivial⟩) (fun _ h1 => h1) (fun _ _ h1 => h1)

theorem tpost_withScopeContentD {α} (sc : List Nat) (ct : Option Closure) {body : M α} (hb : Tot body)
    (rt : RT) (h : RWF rt) (hct : ∀ c, ct = some c → ClosureWf c) :
    TPost (fun _ => True) (withScopeContentD sc ct body rt) :=
  sat_withScopeContentD.mpr <| Res.Sat.mono (hb.post { rt with scope := sc, content := ct } ⟨h.blocks, hct⟩)
    (fun _ _ h1 => ⟨h1.1.mix h rfl rfl, trivial⟩) (fun _ h1 => h1.mix h rfl rfl)
    (fun _ _ h1 => ⟨h1.1, h1.2.mix h rfl rfl⟩)

/-- isSet's catch-all recover swallows every panic -/
theorem tot_recoverFalse {m : M Bool} (hm : Tot m) : Tot (recoverFalse m) :=
  ⟨fun rt h => sat_recoverFalse.mpr <| Res.Sat.mono (hm.post rt h) (fun _ _ h1 => h1)
    (fun _ h1 => ⟨h1.mix h rfl rfl, trivial⟩) (fun _ _ h1 => ⟨h1.2.mix h rfl rfl, trivial⟩)⟩

/-! ### pure helpers: a crash of a helper is `Allowed` -/

def PTot {α} (p : P α) : Prop := ∀ s, p = .error (.crash s) → Allowed s

theorem ptot_ok {α} (a : α) : PTot (.ok a : P α) := pcr_ok a
theorem ptot_throwErr {α} (e : Err) : PTot (throwErr e : P α) := pcr_err e

/-! #### converted arguments have the parameter's kind -/

/-- what `convertArg` hands to a `string` / `int` parameter -/
def TyOk : Ty → Val → Prop
  | .string, v => ∃ s, v = .str s
  | .int, v => ∃ i, v = .int i
  | _, _ => True

theorem convertArg_typed (t : Ty) (v x : Val) (h : convertArg t v = .ok (some x)) : TyOk t x := by
  unfold convertArg at h
  split at h
  -- the tenth arm, `.int, .float f`, asks `floatToInt f` first; every other arm is a `pure (some _)` of
  -- the parameter's kind, `pure none` or `unsupported`
  case h_10 f =>
    cases hf : floatToInt f <;> rw [hf] at h <;> cases h
    exact ⟨_, rfl⟩
  all_goals cases h
  all_goals simp [TyOk]

theorem convArg_typed (t : Ty) (v x : Val) (w : String) (h : convArg t v w = .ok (.ok x)) : TyOk t x := by
  unfold convArg at h
  split at h
  · cases h
  · cases hc : convertArg t v with
    | error e => rw [hc] at h; cases h
    | ok o =>
      rw [hc] at h
      cases o with
      | none => cases h
      | some y => cases h; exact convertArg_typed _ _ _ hc

def Typed (sig : Sig) (args : List Val) : Prop :=
  ∀ i v t, args[i]? = some v → sig.tyAt i = some t → TyOk t v

theorem tyAt_variadic (t : Ty) (i : Nat) : Sig.tyAt ⟨[], some t⟩ i = some t := by
  simp [Sig.tyAt]

theorem tyAt_cat (i : Nat) : Sig.tyAt ⟨[.string], some .string⟩ i = some .string := by
  cases i <;> simp [Sig.tyAt]

/-- the `unreachable cat arg` / `unreachable sum arg` sites: the arguments were converted to the
    parameter types.  What is left is `strings.Repeat`'s own panic. -/
theorem ptot_applyGoFunc (id : String) (args : List Val) {sig : Sig} (hsig : goFuncSig id = some sig)
    (h : Typed sig args) : PTot (applyGoFunc id args) := by
  refine applyGoFunc_pcr id args (.inl rfl) (fun hid v hv => .inl ?_) (fun hid v hv => .inl ?_)
  · subst hid
    obtain rfl : ⟨[.string], some .string⟩ = sig := by simpa [goFuncSig] using hsig
    obtain ⟨i, hi⟩ := List.mem_iff_getElem?.mp hv
    cases args with
    | nil => simp at hi
    | cons x xs => exact h (i + 1) v .string (by simpa using hi) (tyAt_cat _)
  · subst hid
    obtain rfl : ⟨[], some .int⟩ = sig := by simpa [goFuncSig] using hsig
    obtain ⟨i, hi⟩ := List.mem_iff_getElem?.mp hv
    exact h i v .int hi (tyAt_variadic _ _)

/-- the `unreachable Cat arg` site -/
theorem ptot_applyMethod (name : String) (recv : Val) (args : List Val) {sig : Sig} (hsig : methodSig name = some sig)
    (h : Typed sig args) : PTot (applyMethod name recv args) := by
  refine applyMethod_pcr name recv args fun hn v hv => .inl ?_
  subst hn
  obtain rfl : ⟨[], some .string⟩ = sig := by simpa [methodSig] using hsig
  obtain ⟨i, hi⟩ := List.mem_iff_getElem?.mp hv
  exact h i v .string hi (tyAt_variadic _ _)

/-! ### templates handed out by the loader are well-formed -/

theorem canonicalOf_wf {env : Env} (he : EnvWf env) (p n : Bytes) (t : Tmpl)
    (h : canonicalOf env p = some (n, some t)) : TmplWf t := by
  unfold canonicalOf at h
  obtain ⟨ext, _, hx⟩ := List.exists_of_findSome?_eq_some h
  split at hx
  · rename_i n' t' hf
    cases hx
    exact he _ (List.mem_of_find?_eq_some hf) t rfl
  · cases hx

theorem getSibling_wf {env : Env} (he : EnvWf env) (a c : Bytes) (t : Tmpl)
    (h : getSibling env a c = .ok t) : TmplWf t := by
  unfold getSibling at h
  dsimp only at h
  split at h
  · cases h
  · cases h
  · rename_i n t' hc
    cases h
    exact canonicalOf_wf he _ _ _ hc

theorem findTmpl_wf {env : Env} (he : EnvWf env) (n : Bytes) (t : Tmpl) (h : findTmpl env n = some t) :
    TmplWf t := by
  unfold findTmpl at h
  split at h
  · rename_i n' t' hf
    cases h
    exact he _ (List.mem_of_find?_eq_some hf) t rfl
  · cases h

theorem rootOf_wf {env : Env} (he : EnvWf env) : ∀ (n : Nat) (t root : Tmpl), TmplWf t →
    rootOf env n t = some root → TmplWf root := by
  intro n
  induction n with
  | zero => intro t root _ h; simp [rootOf] at h
  | succ n ih =>
    intro t root ht h
    unfold rootOf at h
    split at h
    · cases h; exact ht
    · split at h
      · rename_i p hp
        exact ih p root (findTmpl_wf he _ _ hp) h
      · cases h

theorem totq_liftP {α} {Q : α → Prop} (p : P α) (hp : PTot p) (hq : ∀ a, p = .ok a → Q a) : TotQ Q (liftP p) :=
  ⟨fun _ h => sat_liftP (fun a e => ⟨h, hq a e⟩) h (fun s e => ⟨hp s e, h⟩)⟩

theorem tot_liftP {α} (p : P α) (hp : PTot p) : Tot (liftP p) := totq_liftP p hp fun _ _ => trivial

theorem totq_convArg (t : Ty) (v : Val) (w : String) :
    TotQ (fun res => ∀ x, res = .ok x → TyOk t x) (liftP (convArg t v w)) :=
  totq_liftP _ (convArg_pcr _ _ _) fun res hres x hx => by subst hx; exact convArg_typed _ _ _ _ hres

structure RecTot (env : Env) (r : Rec) : Prop where
  evalExpr : ∀ e, ExprWf e → Tot (r.evalExpr env e)
  execList : ∀ l, StmtsWf l → Tot (r.execList env l)
  isSetE : ∀ e, ExprWf e → Tot (r.isSetE env e)
  /-- evaluating a bare `_` never yields a value (it is "unexpected node type", an error), so the panic
      `executeSet` would raise behind that evaluation is not reached (`tot_executeSet`) -/
  under : ∀ loc, TotQ (fun _ => False) (r.evalExpr env (.underscore loc))

theorem recTot_bottom (env : Env) : RecTot env Rec.bottom :=
  ⟨fun _ _ => tot_outOfFuel, fun _ _ => tot_outOfFuel, fun _ _ => tot_outOfFuel, fun _ => ⟨fun _ _ => trivial⟩⟩

/-- `Tot` tolerates none of the crash sites of the evaluator proper (only `Allowed` messages), and
    needs the blocks `setBlocks` installs well-formed: a `Walk`, not a `WalkAll` -/
theorem Tot.walk : Walk Allowed (fun {α} (m : M α) => Tot m) where
  bind := Tot.bind
  liftP := tot_liftP
  reads h := tot_of_same (keepsScopes_of_reads h)
  emits h := tot_of_same h.keepsScopes
  modifyLog := tot_modify_log
  letVar := tot_letVar
  setValue := tot_setValue
  letGlobal := tot_letGlobal
  withNewScopeND := tot_withNewScopeND
  withNewScopeD := tot_withNewScopeD
  withCtxND := tot_withCtxND
  withCtxD := tot_withCtxD
  discard := tot_withWriterD _
  recoverFalse := tot_recoverFalse

variable {env : Env} {r : Rec}

theorem Typed.snoc {sig : Sig} {l : List Val} {t : Ty} {x : Val} (h : Typed sig l)
    (ht : sig.tyAt l.length = some t) (hx : TyOk t x) : Typed sig (l ++ [x]) := by
  intro i v t' hi hti
  rcases Nat.lt_trichotomy i l.length with hlt | heq | hgt
  · rw [List.getElem?_append_left hlt] at hi
    exact h i v t' hi hti
  · subst heq
    simp at hi
    subst hi
    rw [ht] at hti
    cases hti
    exact hx
  · rw [List.getElem?_eq_none_iff.mpr (by simp; omega)] at hi
    cases hi

/-- `n` more arguments from slot `slot` on all have a parameter: what the arity test of `evaluateArgs` establishes -/
def Fits (sig : Sig) (slot n : Nat) : Prop := sig.variadic.isSome = true ∨ slot + n ≤ sig.params.length

theorem Fits.tyAt {sig : Sig} {slot n : Nat} (h : Fits sig slot (n + 1)) : ∃ t, sig.tyAt slot = some t := by
  unfold Sig.tyAt
  split
  · exact ⟨_, rfl⟩
  · next hn =>
    rcases h with h | h
    · exact Option.isSome_iff_exists.mp h
    · have := List.getElem?_eq_none_iff.mp hn
      omega

theorem Fits.succ {sig : Sig} {slot n : Nat} (h : Fits sig slot (n + 1)) : Fits sig (slot + 1) n :=
  h.imp_right fun h => by omega

/-- the argument loop: `unreachable: too many arguments` is excluded by the arity test of
    `evaluateArgs`, `nil pointer dereference (no piped value)` by its slot test; every argument
    it returns has been converted to its parameter's type -/
theorem totq_evalArgsLoop (hr : RecTot env r) (sig : Sig) (a : Args)
    (hp : ∀ e ∈ a.exprs, isUnderscore e = true → a.piped.isSome = true) :
    ∀ (es : List Expr) (slot : Nat) (acc : List Val), ExprsWf es → (∀ e ∈ es, e ∈ a.exprs) →
      Fits sig slot es.length → acc.length = slot → Typed sig acc.reverse →
      TotQ (fun res => ∀ args, res = .ok args → Typed sig args) (evalArgsLoop r env sig a es slot acc)
  | [], _, _, _, _, _, _, hty => totq_pure _ fun args h => by cases h; exact hty
  | e :: rest, slot, acc, hw, hsub, har, hlen, hty => by
    rw [ExprsWf] at hw
    obtain ⟨t, ht⟩ := har.tyAt
    unfold evalArgsLoop
    rw [ht]
    have hv : Tot (if isUnderscore e = true then
          match a.piped with
          | some p => pure p
          | none => crash "nil pointer dereference (no piped value)"
        else r.evalExpr env e) := by
      split
      · next hu =>
        obtain ⟨p, hpi⟩ := Option.isSome_iff_exists.mp (hp e (hsub e List.mem_cons_self) hu)
        rw [hpi]
        exact tot_pure _
      · exact hr.evalExpr e hw.1
    refine TotQ.bind hv fun v _ => TotQ.bind (totq_convArg t _ _) fun res hres => ?_
    cases res with
    | error m => exact totq_pure _ (fun args h => by cases h)
    | ok x =>
      refine totq_evalArgsLoop hr sig a hp rest (slot + 1) (x :: acc) hw.2
        (fun e' he' => hsub e' (List.mem_cons_of_mem _ he')) har.succ (by simp [hlen]) ?_
      rw [List.reverse_cons]
      exact hty.snoc (by rw [List.length_reverse, hlen]; exact ht) (hres x rfl)

theorem typed_nil (sig : Sig) : Typed sig [] := by
  intro i v t hi; simp at hi

theorem totq_evaluateArgs (hr : RecTot env r) (sig : Sig) (a : Args) (hw : ExprsWf a.exprs)
    (hs : a.piped.isNone = true → SlotOk a.exprs a.hasSlot) :
    TotQ (fun res => ∀ args, res = .ok args → Typed sig args) (evaluateArgs r env sig a) := by
  unfold evaluateArgs
  split
  · exact totq_pure _ (fun args h => by cases h)
  · next hguard =>
    dsimp only
    split
    · exact totq_pure _ (fun args h => by cases h)
    · next har =>
      have hp : ∀ e ∈ a.exprs, isUnderscore e = true → a.piped.isSome = true := by
        intro e he hu
        cases hpi : a.piped with
        | none =>
          have := hs (by rw [hpi]; rfl) (List.any_eq_true.mpr ⟨e, he, hu⟩)
          simp [this, hpi] at hguard
        | some p => rfl
      have hl := fun slot acc => totq_evalArgsLoop hr sig a hp a.exprs slot acc hw fun _ h => h
      have harity : Fits sig 0 a.num := by
        cases hv : sig.variadic with
        | none => right; simp [hv] at har; omega
        | some t => left; rw [hv]; rfl
      split
      · next p hpi hsl =>
        have hnum : a.num = a.exprs.length + 1 := by simp [Args.num, hpi, hsl]
        rw [hnum] at harity
        obtain ⟨t, ht⟩ := harity.tyAt
        rw [ht]
        refine TotQ.bind (totq_convArg t _ _) fun res hres => ?_
        cases res with
        | error m => exact totq_pure _ (fun args h => by cases h)
        | ok x => exact hl 1 [x] harity.succ rfl ((typed_nil sig).snoc (t := t) ht (hres x rfl))
      · next hne =>
        have hnum : a.num = a.exprs.length := by
          cases hpi : a.piped with
          | none => simp [Args.num, hpi]
          | some p =>
            cases hsl : a.hasSlot with
            | true => simp [Args.num, hsl]
            | false => exact (hne p hpi hsl).elim
        exact hl 0 [] (hnum ▸ harity) rfl (typed_nil sig)

theorem tot_execBuiltin (he : EnvWf env) (hr : RecTot env r) (isExec : Bool) (a : Args) (hw : ExprsWf a.exprs) :
    Tot (execBuiltin r env isExec a) := by
  have W := Tot.walk
  have hg := Args.get_ok W (a := a) fun e h => hr.evalExpr e (hw.mem e h)
  unfold execBuiltin
  refine W.ite (W.errPlain _) (W.bind (hg 0) fun nameV => ?_)
  split
  · dsimp only
    split
    · exact W.ite (W.errPlain _) (W.pure _)
    · exact W.errPlain _
    · have ht := canonicalOf_wf he _ _ _ (by assumption)
      split
      · exact W.unsupported _
      · have hl := hr.execList _ (rootOf_wf he _ _ _ ht (by assumption)).root
        refine W.bind (W.withNewScopeD ?_) fun v => W.pure _
        refine W.ite (W.discard ?_) ?_ <;> exact W.bind (tot_setBlocks _ ht.blocks) fun _ =>
          W.ite (W.withCtxD (hg 1) hl) hl
  · exact W.unsupported _

theorem tot_yieldBlockApi (hr : RecTot env r) (name : Bytes) (ctx : Val) : Tot (yieldBlockApi r env name ctx) := by
  have W := Tot.walk
  unfold yieldBlockApi
  refine TotQ.bind (totq_getBlock name) fun o ho => ?_
  cases o with
  | none => exact W.errPlain _
  | some blk =>
    have hb := hr.execList _ (ho blk rfl).body
    exact W.ite (W.bind (W.withCtxND _ hb) fun _ => W.pure _) (W.bind hb fun _ => W.pure _)

theorem tot_applyJetFunc (he : EnvWf env) (hr : RecTot env r) (id : String) (a : Args) (hw : ExprsWf a.exprs) :
    Tot (applyJetFunc r env id a) :=
  applyJetFunc_ok Tot.walk (fun e h => hr.evalExpr e (hw.mem e h)) (fun e h => hr.isSetE e (hw.mem e h))
    (tot_yieldBlockApi hr) (fun b => tot_execBuiltin he hr b a hw) id

/-- `unreachable: call of non-func`: every caller has tested the kind -/
theorem tot_callValue (he : EnvWf env) (hr : RecTot env r) (fn : Val) (a : Args) (hk : kindIsFunc fn = true)
    (hw : ExprsWf a.exprs) (hs : a.piped.isNone = true → SlotOk a.exprs a.hasSlot) : Tot (callValue r env fn a) := by
  have W := Tot.walk
  have args := fun sig => totq_evaluateArgs hr sig a hw hs
  cases fn with
  | func id =>
    unfold callValue
    dsimp only
    split
    · exact W.unsupported _
    · next sig hsig =>
      refine TotQ.bind (args sig) fun res hres => ?_
      cases res with
      | error m => exact W.pure _
      | ok vs =>
        exact W.bind (W.liftP _ (ptot_applyGoFunc id vs hsig (hres vs rfl))) fun x =>
          W.bind (W.addLog _) fun _ => W.pure _
  | jfunc id => exact W.bind (tot_applyJetFunc he hr id a hw) fun v => W.pure _
  | swriter => exact W.unsupported _
  | method name recv =>
    unfold callValue
    dsimp only
    split
    · exact W.unsupported _
    · next sig hsig =>
      refine TotQ.bind (args sig) fun res hres => ?_
      cases res with
      | error m => exact W.pure _
      | ok vs => exact W.bind (W.liftP _ (ptot_applyMethod name recv vs hsig (hres vs rfl))) fun x => W.pure _
  | _ => cases hk

theorem tot_callAt (he : EnvWf env) (hr : RecTot env r) (loc : Loc) (fn : Val) (a : Args) (hk : kindIsFunc fn = true)
    (hw : ExprsWf a.exprs) (hs : a.piped.isNone = true → SlotOk a.exprs a.hasSlot) : Tot (callAt r env loc fn a) := by
  have W := Tot.walk
  unfold callAt
  refine W.bind (tot_callValue he hr fn a hk hw hs) fun res => ?_
  split
  · exact W.pure _
  · exact W.errAt _ _

theorem RecTot.evalExprO (hr : RecTot env r) {o : Option Expr} (ho : ExprOWf o) :
    ∀ e, o = some e → Tot (r.evalExpr env e) := fun e h => hr.evalExpr e (by subst h; exact ho)

theorem RecTot.execListO (hr : RecTot env r) {o : Option (List Stmt)} (ho : StmtsOWf o) :
    ∀ l, o = some l → Tot (r.execList env l) := fun l h => hr.execList l (by subst h; exact ho)

/-- `unreachable operator`: the parser only builds `*`, `/`, `%` nodes; a call is made with its
    argument list well-formed and its slot flag right -/
theorem tot_evalExprF (he : EnvWf env) (hr : RecTot env r) (e : Expr) (hw : ExprWf e) : Tot (evalExprF r env e) := by
  have ev := hr.evalExpr
  refine evalExprF_ok Tot.walk e ?_
  cases e with
  | chain | not => rw [ExprWf] at hw; exact ev _ hw
  | add => rw [ExprWf] at hw; exact ⟨hr.evalExprO hw.1, ev _ hw.2⟩
  | mul => rw [ExprWf] at hw; exact ⟨ev _ hw.1, ev _ hw.2.1, .inl hw.2.2⟩
  | cmp | numcmp | logic | index => rw [ExprWf] at hw; exact ⟨ev _ hw.1, ev _ hw.2⟩
  | ternary => rw [ExprWf] at hw; exact ⟨ev _ hw.1, ev _ hw.2.1, ev _ hw.2.2⟩
  | call loc f args ann hasSlot =>
    rw [ExprWf] at hw
    exact ⟨ev _ hw.1, fun fv hk => tot_callAt he hr loc fv _ hk hw.2.1 fun _ => hw.2.2⟩
  | slice => rw [ExprWf] at hw; exact ⟨ev _ hw.1, hr.evalExprO hw.2.1, hr.evalExprO hw.2.2⟩
  | _ => trivial

theorem tot_isSetF (hr : RecTot env r) (e : Expr) (hw : ExprWf e) : Tot (isSetF r env e) :=
  tot_recoverFalse <| isSetBody_ok Tot.walk e
    (fun _ b i h => by
      subst h; rw [ExprWf] at hw
      exact ⟨hr.isSetE b hw.1, hr.isSetE i hw.2, hr.evalExpr b hw.1, hr.evalExpr i hw.2⟩)
    (fun _ b _ h => by subst h; rw [ExprWf] at hw; exact hr.evalExpr b hw)

/-- `interface conversion in executeSet`: the left side is an identifier, a field, a chain or `_`
    (evaluating `_` is an error, not a panic) -/
theorem tot_executeSet (hr : RecTot env r) (l : Expr) (v : Val) (hl : LeftSetOk l) : Tot (executeSet r env l v) := by
  have W := Tot.walk
  cases l with
  | ident loc name => exact W.bind (W.setValue _ _) fun ok => W.ite (W.pure _) (W.errAt _ _)
  | field | chain => exact W.unsupported _
  | underscore loc => exact TotQ.bind (hr.under loc) fun _ hf => hf.elim
  | _ => exact hl.elim

/-- `interface conversion: not *IdentifierNode`: `:=` only declares identifiers -/
theorem tot_assignOne (hr : RecTot env r) (isLet : Bool) (l : Expr) (v : Val) (hl : LeftOk isLet l) :
    Tot (assignOne r env isLet l v) := by
  cases l with
  | underscore loc => exact tot_pure _
  | ident loc n =>
    cases isLet
    · exact tot_executeSet hr (.ident loc n) v trivial
    · exact tot_letVar _ _
  | field loc ns => cases (hl : isLet = false); exact tot_executeSet hr (.field loc ns) v trivial
  | chain loc b fs => cases (hl : isLet = false); exact tot_executeSet hr (.chain loc b fs) v trivial
  | _ => exact hl.elim

/-- `index out of range [i] in assignment`: a right side per left side -/
theorem tot_assignLoop (hr : RecTot env r) (isLet : Bool) :
    ∀ ls rs, (∀ l ∈ ls, LeftOk isLet l) → ExprsWf rs → ls.length ≤ rs.length →
      Tot (assignLoop r env isLet ls rs) := by
  intro ls
  induction ls with
  | nil => intro rs _ _ _; unfold assignLoop; exact tot_pure _
  | cons l ls ih =>
    intro rs hl hw hlen
    cases rs with
    | nil => simp at hlen
    | cons rgt rs =>
      rw [ExprsWf] at hw
      unfold assignLoop
      exact Tot.bind (hr.evalExpr rgt hw.1) fun v =>
        Tot.bind (tot_assignOne hr isLet l v (hl l List.mem_cons_self)) fun _ =>
          ih rs (fun l' h' => hl l' (List.mem_cons_of_mem _ h')) hw.2 (by simpa using hlen)

/-- `index out of range in lookup assignment`: the lookup form has two left sides and a right side (`SetWf`) -/
theorem tot_executeAssign (hr : RecTot env r) (s : SetN) (hs : SetWf s) : Tot (executeAssign r env s) := by
  unfold executeAssign
  cases hlk : s.lookup with
  | false =>
    simp only [Bool.false_eq_true, ↓reduceIte]
    exact tot_assignLoop hr s.isLet s.left s.right hs.left hs.right (hs.len hlk)
  | true =>
    obtain ⟨l0, l1, rgt, rest, h1, h2⟩ := hs.look hlk
    have hw := hs.right
    have hl := hs.left
    rw [h2, ExprsWf] at hw
    rw [h1] at hl
    simp only [↓reduceIte]
    rw [h1, h2]
    dsimp only
    exact Tot.bind (hr.evalExpr rgt hw.1) fun v =>
      Tot.bind (tot_assignOne hr s.isLet l0 v (hl l0 (by simp))) fun _ =>
        tot_assignOne hr s.isLet l1 _ (hl l1 (by simp))

theorem tot_evalCommand (he : EnvWf env) (hr : RecTot env r) (c : Cmd) (hc : CmdWf true c) : Tot (evalCommand r env c) :=
  evalCommand_ok Tot.walk c (hr.evalExpr _ hc.base) (fun e h => hr.evalExpr e (hc.args.mem e h))
    fun fn hk => tot_callAt he hr _ fn _ hk hc.args (fun _ => hc.slot rfl)

theorem tot_evalCommandPipe (he : EnvWf env) (hr : RecTot env r) (c : Cmd) (v : Val) (hc : CmdWf false c) :
    Tot (evalCommandPipe r env c v) :=
  evalCommandPipe_ok Tot.walk c v (hr.evalExpr _ hc.base) (fun e h => hr.evalExpr e (hc.args.mem e h))
    fun fn hk => tot_callAt he hr _ fn _ hk hc.args (fun h => by cases h)

/-- `index out of range [0] with length 0`: a pipeline has a first command -/
theorem tot_evalPipeline (he : EnvWf env) (hr : RecTot env r) (p : Pipe) (hp : PipeWf p) : Tot (evalPipeline r env p) := by
  unfold PipeWf at hp
  unfold evalPipeline
  cases hc : p.cmds with
  | nil => rw [hc] at hp; exact hp.elim
  | cons c0 rest =>
    rw [hc] at hp
    exact Tot.bind (tot_evalCommand he hr c0 hp.1) fun first =>
      pipelineLoop_ok Tot.walk rest first fun c h v => tot_evalCommandPipe he hr c v (hp.2 c h)

/-- `yield content`: the closure holds well-formed syntax -/
theorem tpost_invokeContent (hr : RecTot env r) (c : Closure) (ctxE : Option Expr) (hx : ExprOWf ctxE) (rt : RT)
    (h : RWF rt) (hc : ClosureWf c) : TPost (fun _ => True) (invokeContent r env c ctxE rt) := by
  cases c with
  | mk body sc outer =>
    obtain ⟨h1, h2⟩ := (ClosureWf.mk_iff _ _ _).mp hc
    exact tpost_withScopeContentD sc outer
      (yieldRun_ok Tot.walk body ctxE (hr.evalExprO hx) (hr.execList body h1)) rt h h2

theorem tot_yieldBody (hr : RecTot env r) (block : BlockN) (hb : StmtsWf block.body) (ctxE : Option Expr)
    (hx : ExprOWf ctxE) (content : Option (List Stmt)) (hc : StmtsOWf content) :
    Tot (yieldBody r env block ctxE content) := by
  have run := yieldRun_ok Tot.walk block.body ctxE (hr.evalExprO hx) (hr.execList _ hb)
  refine ⟨fun rt h => ?_⟩
  unfold yieldBody
  rw [getRT_bind]
  cases content with
  | none => exact tpost_withContentND _ run rt h h.content
  | some body =>
    refine tpost_withContentND _ run rt h fun c' hc' => ?_
    cases hc'
    exact (ClosureWf.mk_iff _ _ _).mpr ⟨hc, h.content⟩

theorem tot_executeYieldBlock (hr : RecTot env r) (loc : Loc) (block : BlockN) (hb : StmtsWf block.body)
    (bp yp : List Param) (hbp : ParamsWf bp) (hyp : ParamsWf yp) (ctxE : Option Expr) (hx : ExprOWf ctxE)
    (content : Option (List Stmt)) (hc : StmtsOWf content) :
    Tot (executeYieldBlock r env loc block bp yp ctxE content) :=
  have dflt : ∀ {ps}, ParamsWf ps → ∀ p ∈ ps, ∀ e, p.dflt = some e → Tot (r.evalExpr env e) :=
    fun hw p hp => hr.evalExprO (hw p hp)
  executeYieldBlock_ok Tot.walk loc block bp yp ctxE content (bindYieldParams_ok Tot.walk loc yp (dflt hyp))
    (bindBlockParams_ok Tot.walk bp (dflt hbp)) (tot_yieldBody hr block hb ctxE hx content hc)

theorem totq_liftOpt {α} (w : String) (o : Option α) : TotQ (fun a => o = some a) (liftOpt w o : M α) := by
  cases o with
  | none => exact totq_unsupported w
  | some a => exact totq_pure a rfl

theorem tot_executeInclude (he : EnvWf env) (hr : RecTot env r) (loc : Loc) (nameE : Expr) (hn : ExprWf nameE)
    (ctxE : Option Expr) (hx : ExprOWf ctxE) : Tot (executeInclude r env loc nameE ctxE) := by
  have W := Tot.walk
  unfold executeInclude
  refine W.bind (hr.evalExpr nameE hn) fun nameV => W.ite (W.errAt _ _) <| W.bind (by split <;> leaf W) fun name => ?_
  refine TotQ.bind (totq_liftP (Q := fun t => TmplWf t) _ (PCr.locateP _ (getSibling_pcr _ _ _))
    (fun t ht => getSibling_wf he _ _ _ (locateP_ok _ _ _ ht))) fun t ht => ?_
  refine W.withNewScopeD <| W.bind (tot_setBlocks _ ht.blocks) fun _ => TotQ.bind (totq_liftOpt _ _) fun root hroot => ?_
  have hl := hr.execList _ (rootOf_wf he _ _ _ ht hroot).root
  cases ctxE with
  | none => exact hl
  | some e => exact W.withCtxD (hr.evalExpr e hx) hl

/-- `index out of range` in a range header: the slot that is bound has a left side -/
theorem tot_rangeBind (hr : RecTot env r) (set : Option SetN) (hset : ∀ st, set = some st → RangeSetWf st)
    (slot : Option Nat) (v : Val) (h : ∀ st k, set = some st → slot = some k → k < st.left.length) :
    Tot (rangeBind r env set slot v) := by
  have W := Tot.walk
  unfold rangeBind
  split
  · next k st =>
    have hk := h st k rfl rfl
    have hl := (hset st rfl).left _ (List.getElem_mem hk)
    rw [List.getElem?_eq_getElem hk]
    dsimp only
    split
    · split <;> first | exact W.letVar _ _ | exact W.unsupported _
    · next hlet =>
      rcases hl with hl | hl
      · exact absurd hl hlet
      · split
        · exact W.pure _
        · exact tot_executeSet hr _ v hl
  · exact W.pure _

theorem tot_rangeCore (hr : RecTot env r) (loc : Loc) (set : Option SetN)
    (hset : ∀ st, set = some st → RangeSetWf st) (ex : Val)
    (body : List Stmt) (hb : StmtsWf body) (els : Option (List Stmt)) (hels : StmtsOWf els) :
    Tot (rangeCore r env loc set ex body els) := by
  unfold rangeCore
  dsimp only
  refine Tot.bind (tot_liftP _ (PCr.locateP _ (getRanger_pcr _))) fun rg =>
    rangeLoop_ok Tot.walk set _ _ body els (fun v => tot_rangeBind hr set hset _ v ?_)
      (fun v => tot_rangeBind hr set hset _ v ?_) (hr.execList body hb) (hr.execListO hels) _ _ _
  · intro st k hs hk
    subst hs
    simp at hk
    subst hk
    exact List.length_pos_iff.mpr (hset st rfl).leftNe
  · intro st k hs hk
    subst hs
    simp at hk
    exact hk.2 ▸ hk.1

/-- `index out of range [0] with length 0` / `nil expression in range`: a range assignment has a right side, a range
    without assignment has an expression (`RangeHeadWf`) -/
theorem tot_execRange (hr : RecTot env r) (loc : Loc) (set : Option SetN) (e : Option Expr)
    (hh : RangeHeadWf set e) (body : List Stmt) (hb : StmtsWf body) (els : Option (List Stmt))
    (hels : StmtsOWf els) : Tot (execRange r env loc set e body els) := by
  have W := Tot.walk
  unfold execRange
  cases set with
  | some st =>
    have hw : RangeSetWf st := hh
    obtain ⟨rgt, rest, h1, h2⟩ := hw.right
    have hc := fun ex => tot_rangeCore hr loc (some st) (fun st' h' => by cases h'; exact hw) ex body hb els hels
    dsimp only
    rw [h1]
    exact W.bind (hr.evalExpr rgt h2) fun ex => W.ite (W.withNewScopeND (hc ex)) (hc ex)
  | none =>
    cases e with
    | none => exact hh.elim
    | some ex =>
      have hw : ExprWf ex := hh
      exact W.bind (hr.evalExpr ex hw) fun v =>
        tot_rangeCore hr loc none (fun st' h' => by cases h') v body hb els hels

/-- `executeTry`: `recover()` swallows every panic of the body -/
theorem tot_executeTry (hr : RecTot env r) (body : List Stmt) (hbody : StmtsWf body) (hasCatch : Bool)
    (cv : Option Bytes) (cb : Option (List Stmt)) (hcb : StmtsOWf cb) :
    Tot (executeTry r env body hasCatch cv cb) := by
  refine ⟨fun rt h => sat_executeTry ?_⟩
  have handler : ∀ {rt2}, RWF rt2 → ∀ errVal,
      TPost (fun _ => True) (tryCatch r env hasCatch cv cb errVal (tryReset rt rt2)) := fun k errVal =>
    (tryCatch_ok Tot.walk hasCatch cv cb errVal (hr.execListO hcb)).post _ (k.mix h rfl rfl)
  refine Res.Sat.mono ((hr.execList body hbody).post (tryStart rt) (h.congr rfl rfl)) (fun _ rt2 hb => ?_)
    (fun _ => handler) (fun _ _ hb => handler hb.2)
  obtain ⟨a1, _, a3⟩ := appendTo_same { rt2 with writer := rt.writer } rt.writer (rt2.sink (rt.nbufs + 1)).reverse
  exact ⟨hb.1.congr a1 a3, trivial⟩

theorem tot_actionSet (hr : RecTot env r) (b : Bool) (set : Option SetN) (hs : SetOWf set) :
    Tot (actionSet r env b set) := by
  have W := Tot.walk
  cases set with
  | none => exact W.pure _
  | some st =>
    have h1 := tot_executeAssign hr st hs
    exact W.ite (W.ite (W.bind tot_newScope fun _ => W.bind h1 fun _ => W.pure _) (W.bind h1 fun _ => W.pure _))
      (W.bind h1 fun _ => W.pure _)

theorem tot_execIf (hr : RecTot env r) (set : Option SetN) (hs : SetOWf set) (c : Expr) (hc : ExprWf c)
    (t : List Stmt) (ht : StmtsWf t) (e : Option (List Stmt)) (hels : StmtsOWf e) :
    Tot (execIf r env set c t e) :=
  execIf_ok Tot.walk set c t e (fun st h => tot_executeAssign hr st (by subst h; exact hs))
    (ifBranches_ok Tot.walk c t e (hr.evalExpr c hc) (hr.execList t ht) (hr.execListO hels))

/-- `nil pointer dereference (yield without parameter list)`: only `yield content` lacks the list -/
theorem tot_execYield (hr : RecTot env r) (loc : Loc) (name : Bytes) (params : Option (List Param))
    (ctxE : Option Expr) (content : Option (List Stmt)) (isContent : Bool)
    (hp : isContent = false → params.isSome = true) (hps : ParamsOWf params) (hx : ExprOWf ctxE)
    (hc : StmtsOWf content) : Tot (execYield r env loc name params ctxE content isContent) := by
  unfold execYield
  split
  · refine ⟨fun rt h => ?_⟩
    rw [getRT_bind]
    cases hcn : rt.content with
    | none => exact ⟨h, trivial⟩
    | some c => exact tpost_invokeContent hr c ctxE hx rt h (h.content c hcn)
  · rename_i hic
    refine TotQ.bind (totq_getBlock name) fun o ho => ?_
    cases o with
    | none => exact totq_errAt _ _
    | some blk =>
      have hb := ho blk rfl
      cases params with
      | none => have := hp (by simpa using hic); cases this
      | some ps =>
        exact tot_executeYieldBlock hr loc blk hb.body blk.params ps hb.params hps ctxE hx content hc

theorem tot_execBlock (hr : RecTot env r) (loc : Loc) (name : Bytes) (params : List Param) (hps : ParamsWf params)
    (ctxE : Option Expr) (hx : ExprOWf ctxE) (body : List Stmt) (hbd : StmtsWf body)
    (content : Option (List Stmt)) (hc : StmtsOWf content) :
    Tot (execBlock r env loc name params ctxE body content) := by
  unfold execBlock
  refine TotQ.bind (totq_getBlock name) fun o ho => ?_
  cases o with
  | none =>
    dsimp only
    exact tot_executeYieldBlock hr _ _ hbd _ _ hps hps _ hx _ hc
  | some blk =>
    have hb := ho blk rfl
    dsimp only
    exact tot_executeYieldBlock hr _ blk hb.body _ _ hb.params hb.params _ hb.ctx _ hb.content

theorem tot_execStmt (he : EnvWf env) (hr : RecTot env r) (b : Bool) (s : Stmt) (hw : StmtWf s) :
    Tot (execStmt r env b s) := by
  have W := Tot.walk
  have fin : ∀ {α} {m : M α} {k : α → Val × Val × Bool}, Tot m → Tot (m >>= fun a => pure (k a)) :=
    fun hm => W.bind hm fun _ => W.pure _
  cases s with
  | text loc bts => exact fin (W.writeLit bts)
  | action loc set pipe =>
    rw [StmtWf] at hw
    exact W.bind (tot_actionSet hr b set hw.1) fun ins =>
      fin (actionPipe_ok W pipe fun p h => tot_evalPipeline he hr p (by subst h; exact hw.2))
  | ifS loc set cond thn els =>
    rw [StmtWf] at hw
    exact fin (tot_execIf hr set hw.1 cond hw.2.1 thn hw.2.2.1 els hw.2.2.2)
  | rangeS loc set e body els =>
    rw [StmtWf] at hw
    exact fin (tot_execRange hr loc set e hw.1 body hw.2.1 els hw.2.2)
  | block loc name params ctx body content =>
    rw [StmtWf] at hw
    exact fin (tot_execBlock hr loc name params hw.1 ctx hw.2.1 body hw.2.2.1 content hw.2.2.2)
  | yield loc name params ctx content isContent =>
    rw [StmtWf] at hw
    exact fin (tot_execYield hr loc name params ctx content isContent hw.1 hw.2.1 hw.2.2.1 hw.2.2.2)
  | «include» loc name ctx =>
    rw [StmtWf] at hw
    exact fin (tot_executeInclude he hr loc name hw.1 ctx hw.2)
  | tryS loc body hc cv cb =>
    rw [StmtWf] at hw
    exact fin (tot_executeTry hr body hw.1 hc cv cb hw.2)
  | ret loc e =>
    rw [StmtWf] at hw
    exact fin (hr.evalExpr e hw)

theorem rwf_popIf (c : Bool) {rt : RT} (h : RWF rt) : RWF (if c then popScope rt else rt) := by
  cases c
  · exact h
  · exact rwf_popScope h

theorem tpost_execListGo (he : EnvWf env) (hr : RecTot env r) :
    ∀ (l : List Stmt) (rv : Val) (b : Bool) (rt : RT), StmtsWf l → RWF rt →
      TPost (fun _ => True) (execListGo r env l rv b rt)
  | [], _, _, _, _, h => ⟨h, trivial⟩
  | s :: rest, _, b, rt, hw, h => by
    rw [StmtsWf] at hw
    exact sat_execListGo_cons.mpr <| Res.Sat.mono ((tot_execStmt he hr b s hw.1).post rt h)
      (fun _ rt1 h1 => tpost_execListGo he hr rest _ _ rt1 hw.2 h1.1) (fun _ h1 => rwf_popIf _ h1)
      (fun _ _ h1 => ⟨h1.1, rwf_popIf _ h1.2⟩)

theorem tot_execListF (he : EnvWf env) (hr : RecTot env r) (l : List Stmt) (hw : StmtsWf l) :
    Tot (execListF r env l) :=
  ⟨fun rt h => sat_execListF.mpr <| Res.Sat.mono (tpost_execListGo he hr l .invalid false rt hw h)
    (fun _ _ h1 => ⟨rwf_popIf _ h1.1, trivial⟩) (fun _ h1 => h1) (fun _ _ h1 => h1)⟩

theorem recTot_step (he : EnvWf env) (hr : RecTot env r) : RecTot env (stepRec r) :=
  ⟨fun e hw => tot_evalExprF he hr e hw, fun l hw => tot_execListF he hr l hw,
   fun e hw => tot_isSetF hr e hw, fun _ => totq_errAt _ _⟩

theorem recTot_recAt (he : EnvWf env) : ∀ n, RecTot env (recAt n)
  | 0 => recTot_bottom env
  | n + 1 => recTot_step he (recTot_recAt he n)

end JetVerif.Eval
