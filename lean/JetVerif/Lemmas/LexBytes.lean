/-
  The byte-string functions of Model/Lex.lean in terms of core's `List` vocabulary: `hasPrefix` is
  `<+:`, `indexOf` answers with a place where the separator starts, `seg inp a b` is Go's `inp[a:b]`
  (what `slice` returns, what `emit` sends, what an `ignore` event drops) with its concatenation law,
  and the two trim lengths are the lengths of `takeWhile isSpaceByte` runs.
-/
import JetVerif.Model.Lex

namespace JetVerif.Lex
open JetVerif.Utf8

theorem hasPrefix_iff : ∀ {a b : Bytes}, hasPrefix a b = true ↔ b <+: a
  | _, [] => by simp [hasPrefix]
  | [], _ :: _ => by simp [hasPrefix]
  | x :: xs, y :: ys => by
    rw [hasPrefix, Bool.and_eq_true, beq_iff_eq, hasPrefix_iff, List.cons_prefix_cons, eq_comm]

theorem indexOf_some : ∀ {a sep : Bytes} {i : Nat}, indexOf a sep = some i → sep <+: a.drop i ∧ i + sep.length ≤ a.length
  | [], sep, i, h => by
    simp only [indexOf] at h
    split at h
    · cases h; simp_all
    · cases h
  | x :: xs, sep, i, h => by
    simp only [indexOf] at h
    split at h
    · rename_i hp
      cases h
      exact ⟨hasPrefix_iff.mp hp, by simpa using (hasPrefix_iff.mp hp).length_le⟩
    · cases hi : indexOf xs sep with
      | none => simp [hi] at h
      | some k =>
        simp only [hi, Option.map_some, Option.some.injEq] at h
        subst h
        have := indexOf_some hi
        exact ⟨this.1, by simp only [List.length_cons]; omega⟩

theorem indexOf_at {inp sep : Bytes} {a : Int} {i : Nat} (h0 : 0 ≤ a) (h1 : a ≤ inp.length)
    (h : indexOf (inp.drop a.toNat) sep = some i) :
    sep <+: inp.drop (a + i).toNat ∧ a + i + sep.length ≤ inp.length := by
  have := indexOf_some h
  rw [List.drop_drop, List.length_drop] at this
  rw [Int.toNat_add h0 (Int.natCast_nonneg i), Int.toNat_natCast]
  exact ⟨this.1, by omega⟩

theorem indexByte_lt : ∀ {a : Bytes} {c : UInt8} {k : Nat}, indexByte a c = some k → k < a.length
  | [], _, _, h => by cases h
  | x :: xs, c, k, h => by
    simp only [indexByte] at h
    split at h
    · cases h; simp
    · cases hi : indexByte xs c with
      | none => simp [hi] at h
      | some j =>
        simp only [hi, Option.map_some, Option.some.injEq] at h
        have := indexByte_lt hi
        simp only [List.length_cons]; omega

theorem textScanIndex_lt {rest : Bytes} {ld lc : UInt8} {i : Nat} (h : textScanIndex rest ld lc = some i) :
    i < rest.length := by
  simp only [textScanIndex] at h
  split at h
  · split at h <;> cases h <;> exact indexByte_lt ‹_›
  · cases h; exact indexByte_lt ‹_›
  · exact indexByte_lt h

theorem sliceFrom_eq (inp : Bytes) (a : Int) (h0 : 0 ≤ a) (h1 : a ≤ inp.length) :
    sliceFrom inp a = some (inp.drop a.toNat) := by
  simp [sliceFrom, h0, h1]

/-- Go's `inp[a:b]` for `0 ≤ a ≤ b ≤ len(inp)` -/
def seg (inp : Bytes) (a b : Int) : Bytes := (inp.drop a.toNat).take (b - a).toNat

theorem slice_eq {inp : Bytes} {a b : Int} (h0 : 0 ≤ a) (h1 : a ≤ b) (h2 : b ≤ inp.length) :
    slice inp a b = some (seg inp a b) := by
  simp [slice, seg, h0, h1, h2]

theorem slice_some {inp : Bytes} {a b : Int} {v : Bytes} (h : slice inp a b = some v) :
    0 ≤ a ∧ a ≤ b ∧ b ≤ inp.length ∧ v = seg inp a b := by
  unfold slice at h
  split at h
  · rename_i hb; cases h; exact ⟨hb.1, hb.2.1, hb.2.2, rfl⟩
  · cases h

@[simp] theorem seg_self (inp : Bytes) (a : Int) : seg inp a a = [] := by simp [seg]

theorem seg_nat (inp : Bytes) {a : Int} (n : Nat) : seg inp a (a + n) = (inp.drop a.toNat).take n := by
  unfold seg; congr 1; omega

theorem seg_append (inp : Bytes) {a b c : Int} (h0 : 0 ≤ a) (h1 : a ≤ b) (h2 : b ≤ c) :
    seg inp a c = seg inp a b ++ seg inp b c := by
  unfold seg
  have e1 : (c - a).toNat = (b - a).toNat + (c - b).toNat := by omega
  have e2 : a.toNat + (b - a).toNat = b.toNat := by omega
  rw [e1, List.take_add, List.drop_drop, e2]

theorem seg_of_prefix {inp p : Bytes} {a : Int} (h : p <+: inp.drop a.toNat) : seg inp a (a + p.length) = p := by
  rw [seg_nat]; exact (List.prefix_iff_eq_take.mp h).symm

theorem seg_take (inp : Bytes) {a b b' : Int} (h : b' ≤ b) : seg inp a b' = (seg inp a b).take (b' - a).toNat := by
  unfold seg
  rw [List.take_take]
  congr 1
  omega

theorem seg_cons {inp : Bytes} {a : Int} {b : UInt8} {tl : Bytes} (h : inp.drop a.toNat = b :: tl) :
    seg inp a (a + 1) = [b] := by
  have := seg_nat inp (a := a) 1
  simp only [Int.natCast_one] at this
  rw [this, h]; rfl

theorem seg_eq_cons {inp : Bytes} {a b : Int} {c : UInt8} {tl : Bytes} (h : inp.drop a.toNat = c :: tl) (hab : a < b) :
    seg inp a b = c :: tl.take (b - a - 1).toNat := by
  unfold seg
  rw [h, show (b - a).toNat = (b - a - 1).toNat + 1 by omega]; rfl

theorem seg_length {inp : Bytes} {a b : Int} (h0 : 0 ≤ a) (h1 : a ≤ b) (h2 : b ≤ inp.length) :
    ((seg inp a b).length : Int) = b - a := by
  rw [seg, List.length_take, List.length_drop]; omega

theorem seg_drop {inp : Bytes} {a b c : Int} (h0 : 0 ≤ a) (h1 : a ≤ b) (h2 : b ≤ c) (h3 : c ≤ inp.length) :
    (seg inp a c).drop (b - a).toNat = seg inp b c := by
  have := seg_length h0 h1 (Int.le_trans h2 h3)
  rw [seg_append inp h0 h1 h2, List.drop_left' (by omega)]

theorem prefix_fits {inp p : Bytes} {a : Int} (h0 : 0 ≤ a) (h1 : a ≤ inp.length) (h : p <+: inp.drop a.toNat) :
    a + p.length ≤ inp.length := by
  have := h.length_le
  rw [List.length_drop] at this
  omega

theorem allSpace_takeWhile (l : Bytes) : ∀ c ∈ l.takeWhile isSpaceByte, isSpaceByte c = true :=
  List.all_eq_true.mp List.all_takeWhile

theorem take_leftTrimLength (l : Bytes) : l.take (leftTrimLength l) = l.takeWhile isSpaceByte :=
  (List.prefix_iff_eq_take.mp (List.takeWhile_prefix _)).symm

theorem leftTrimLength_le (l : Bytes) : leftTrimLength l ≤ l.length :=
  (List.takeWhile_prefix _).length_le

theorem rightTrimLength_le (l : Bytes) : rightTrimLength l ≤ l.length := by
  simpa [rightTrimLength, leftTrimLength] using leftTrimLength_le l.reverse

theorem drop_rightTrimLength (l : Bytes) :
    (l.drop (l.length - rightTrimLength l)).reverse = l.reverse.takeWhile isSpaceByte := by
  rw [← List.take_reverse]; exact take_leftTrimLength l.reverse

theorem allSpace_rightTrim (l : Bytes) : ∀ c ∈ l.drop (l.length - rightTrimLength l), isSpaceByte c = true := by
  intro c hc
  exact allSpace_takeWhile l.reverse c (drop_rightTrimLength l ▸ List.mem_reverse.mpr hc)

end JetVerif.Lex
