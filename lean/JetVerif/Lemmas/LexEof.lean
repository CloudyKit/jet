/-
  The end-of-file item is the last item the parser receives: the event-level fact
  (`lexRun_eof_is_last_event`, Lemmas/LexInv.lean) carried over to `Parse.itemsOf`.  It is apart from
  Lemmas/LexInv.lean only because `EofLast` is defined in Lemmas/ParseSafe.lean, which the other users of
  LexInv do not need.
-/
import JetVerif.Lemmas.LexInv
import JetVerif.Lemmas.ParseSafe

namespace JetVerif.Lex
open JetVerif.Utf8

/-- the items handed to the parser: an item of type itemEOF is the last one -/
theorem lexRun_items_eof_last (d : Delims) (input : Bytes) (evs : List Event)
    (h : lexRun d input = .done evs) : JetVerif.Parse.EofLast (JetVerif.Parse.itemsOf evs) := by
  intro pre t post hev ht
  unfold JetVerif.Parse.itemsOf tokensOf at hev
  rw [List.map_filterMap] at hev
  obtain ⟨l0, l, rfl, _, hl⟩ := List.filterMap_eq_append_iff.mp hev
  obtain ⟨l1, e, l2, rfl, _, h2, h3⟩ := List.filterMap_eq_cons_iff.mp hl
  have hlast := lexRun_eof_is_last_event d input _ h (l0 ++ l1) e l2 (List.append_assoc ..).symm
  cases e with
  | emit t' a b v =>
    cases h2
    cases ht
    cases hlast ⟨a, b, v, rfl⟩
    exact h3.symm
  | ignore k a b => cases h2
  | err a msg =>
    cases h2
    cases ht

end JetVerif.Lex
