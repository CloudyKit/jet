/-
  One Hoare triple for the parser monad.  What is demanded of a run that does not end in `ok` is a parameter
  (`Verdict`).  `SafeL` (Lemmas/ParseSafe.lean: no crash, errors on a source line), `TermL` (Lemmas/ParseTerm.lean: no
  fuel exhaustion) and `Ret` (Lemmas/ParseRet.lean: nothing demanded) are instances; the rules and the specifications of
  the primitives that are put together from other primitives are proved here, once.  Each instance is written out
  as a plain statement about the outcomes of `m`, so that the theorems of Props/ unfold without this layer; one
  `iff` per instance (`safeL_iff`, `termL_iff`, `ret_iff_hoare`) carries the rules over.
-/
import JetVerif.Lemmas.ParseBasics

namespace JetVerif.Parse

/-- what a triple demands of the outcomes `err`, `crash` and `fuel` (`unsupported` is always allowed) -/
structure Verdict where
  err : Nat → Prop
  crash : Prop
  fuel : Prop

def PRes.Sat {α} (V : Verdict) (Q : α → PSt → Prop) : PRes α → Prop
  | .ok a s => Q a s
  | .err l _ => V.err l
  | .crash _ => V.crash
  | .fuel => V.fuel
  | .unsupported _ => True

def Hoare {α} (V : Verdict) (P : PSt → Prop) (m : PM α) (Q : α → PSt → Prop) : Prop :=
  ∀ s, P s → (m s).Sat V Q

/-- under `P`, an error raised at the current line is within the verdict -/
def MayFail (V : Verdict) (P : PSt → Prop) : Prop := Hoare V P lineNumber (fun l _ => V.err l)

variable {V : Verdict} {α β : Type} {P P' : PSt → Prop} {Q Q' : α → PSt → Prop} {R : β → PSt → Prop}
  {m : PM α} {f : α → PM β}

theorem PRes.Sat.mono {r : PRes α} (h : r.Sat V Q) (hq : ∀ a s, Q a s → Q' a s) : r.Sat V Q' := by
  cases r <;> first | exact hq _ _ h | exact h

theorem PRes.Sat.andThen {r : PRes α} (h : r.Sat V Q) (hf : ∀ a s, Q a s → (f a s).Sat V R) :
    (r.andThen f).Sat V R := by
  cases r <;> first | exact hf _ _ h | exact h

namespace Hoare

theorem bind (hm : Hoare V P m Q) (hf : ∀ a, Hoare V (Q a) (f a) R) : Hoare V P (m >>= f) R :=
  fun s hs => bind_apply m f s ▸ (hm s hs).andThen fun a => hf a

theorem pure (a : α) (h : ∀ s, P s → Q a s) : Hoare V P (Pure.pure a : PM α) Q := h

theorem weaken (h : Hoare V P m Q) (hp : ∀ s, P' s → P s) (hq : ∀ a s, Q a s → Q' a s) : Hoare V P' m Q' :=
  fun s hs => (h s (hp s hs)).mono hq

theorem ite {c : Prop} [Decidable c] {m1 m2 : PM α}
    (h1 : c → Hoare V P m1 Q) (h2 : ¬ c → Hoare V P m2 Q) : Hoare V P (if c then m1 else m2) Q := by
  split
  · exact h1 ‹_›
  · exact h2 ‹_›

theorem post (h : Hoare V P m Q) (hq : ∀ a s, Q a s → Q' a s) : Hoare V P m Q' := h.weaken (fun _ h => h) hq

theorem assume (φ : Prop) (h1 : ∀ s, P s → φ) (h2 : φ → Hoare V P m Q) : Hoare V P m Q :=
  fun s hs => h2 (h1 s hs) s hs

theorem unsupported (w : String) : Hoare V P (Parse.unsupported w : PM α) Q := fun _ _ => trivial

theorem errorf (h : MayFail V P) (ps : List MP) : Hoare V P (Parse.errorf ps : PM α) Q := fun s hs => by
  have := h s hs
  unfold Parse.errorf
  revert this; cases lineNumber s <;> exact id

theorem unexpected (h : MayFail V P) (tk : Item) (c e : String) : Hoare V P (Parse.unexpected tk c e : PM α) Q := by
  unfold Parse.unexpected
  split
  · exact errorf h _
  · split <;> exact errorf h _

variable {S S' : Item → PSt → Prop}

theorem peekNonSpace (hn : Hoare V P nextNonSpace S) (hb : ∀ tk, Hoare V (S tk) backup (fun _ => S' tk)) :
    Hoare V P Parse.peekNonSpace S' :=
  hn.bind fun tk => (hb tk).bind fun _ => pure tk fun _ h => h

theorem expect (ty : Tok) (c e : String) (hn : Hoare V P nextNonSpace S) (hf : ∀ tk, MayFail V (S tk)) :
    Hoare V P (Parse.expect ty c e) (fun tk s => S tk s ∧ tk.typ = ty) :=
  hn.bind fun tk => ite (fun _ => unexpected (hf tk) _ _ _) fun h => pure tk fun _ hs => ⟨hs, Decidable.of_not_not h⟩

theorem expectOneOf (t1 t2 : Tok) (c e : String) (hn : Hoare V P nextNonSpace S) (hf : ∀ tk, MayFail V (S tk)) :
    Hoare V P (Parse.expectOneOf t1 t2 c e) (fun tk s => S tk s ∧ (tk.typ = t1 ∨ tk.typ = t2)) :=
  hn.bind fun tk => ite (fun _ => unexpected (hf tk) _ _ _) fun h => pure tk fun _ hs =>
    ⟨hs, Decidable.or_iff_not_imp_left.2 fun h1 => Decidable.of_not_not fun h2 => h ⟨h1, h2⟩⟩

theorem expectString (cfg : Cfg) (c : String) (hn : Hoare V P nextNonSpace S) (hf : ∀ tk, MayFail V (S tk)) :
    Hoare V P (Parse.expectString cfg c) (fun _ s => ∃ tk, S tk s ∧ (tk.typ = Tok.string ∨ tk.typ = Tok.rawString)) := by
  unfold Parse.expectString
  refine (expectOneOf _ _ _ _ hn hf).bind fun tk => ?_
  split
  · exact pure _ fun _ h => ⟨tk, h⟩
  · exact errorf (fun s h => hf tk s h.1) _
  · exact unsupported _
  · exact unsupported _

end Hoare

end JetVerif.Parse
