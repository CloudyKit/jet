/-
  The erasure of the parser's trees to the evaluator's, as total functions, and the proof that it maps
  shaped parser trees (Lemmas/ParseShapeDefs.lean) to well-formed evaluator trees (Lemmas/EvalWf.lean).

  `eraseExpr`, `eraseExprOpt`, `eraseSet`, `eraseCmd`, `erasePipe`, `eraseParams`, `eraseStmt`, `eraseEls`
  restate Driver/ExecSrc.lean's `exprA`, `optA`, `setA`, `cmdA`, `pipeA`, `paramsA`, `stmtA`, `optListA`
  clause by clause (those go into `Except String`, the recursive ones as `partial def`s; here `none` stands for
  every error, and the `List.mapM`s are written as mutual list recursions so that the definitions are structural).
  `withBlocks` restates the step of `execSrcCmd` that gives every usable template its effective block table; a table
  built by `Blocks.tableOf` holds only blocks of the trees in the store, so that store is `EnvWf` (`withBlocks_envWf`).
-/
import JetVerif.Lemmas.ParseShapeDefs
import JetVerif.Lemmas.EvalWf
import JetVerif.Lemmas.EvalEqns
import JetVerif.Lemmas.TokCode
import JetVerif.Model.Blocks

namespace JetVerif.Parse
open JetVerif

mutual
def eraseExpr (path : Bytes) : PExpr → Option Expr
  | .ident l n => some (.ident ⟨path, l⟩ n)
  | .field l ns => some (.field ⟨path, l⟩ ns)
  | .chain l b fs => (eraseExpr path b).bind fun b' => some (.chain ⟨path, l⟩ b' fs)
  | .underscore l => some (.underscore ⟨path, l⟩)
  | .nilLit l => some (.nilLit ⟨path, l⟩)
  | .boolLit l b => some (.boolLit ⟨path, l⟩ b)
  | .strLit l s => some (.strLit ⟨path, l⟩ s)
  | .numLit l (.num a b c d i u f) _ =>
    if d then none else some (.numLit ⟨path, l⟩ a b c i u f.toUInt64)
  | .numLit _ _ _ => none
  | .binary .add l op le r =>
    (eraseExprOpt path le).bind fun le' =>
    (eraseExpr path r).bind fun r' => some (.add ⟨path, l⟩ (op == Tok.add) le' r')
  | .binary k l op (some le) r =>
    (eraseExpr path le).bind fun a =>
    (eraseExpr path r).bind fun b =>
    match k with
    | .mul => some (.mul ⟨path, l⟩ op a b)
    | .cmp => some (.cmp ⟨path, l⟩ (op == Tok.notEquals) a b)
    | .numcmp => some (.numcmp ⟨path, l⟩ op a b)
    | .logic => some (.logic ⟨path, l⟩ (op == Tok.and_) a b)
    | .add => some (.add ⟨path, l⟩ (op == Tok.add) (some a) b)
  | .binary _ _ _ none _ => none
  | .not l e => (eraseExpr path e).bind fun e' => some (.not ⟨path, l⟩ e')
  | .ternary l c a b =>
    (eraseExpr path c).bind fun c' =>
    (eraseExpr path a).bind fun a' =>
    (eraseExpr path b).bind fun b' => some (.ternary ⟨path, l⟩ c' a' b')
  | .call l b args slot =>
    (eraseExpr path b).bind fun b' =>
    (eraseExprs path args).bind fun args' => some (.call ⟨path, l⟩ b' args' true slot)
  | .index l b (some i) =>
    (eraseExpr path b).bind fun b' =>
    (eraseExpr path i).bind fun i' => some (.index ⟨path, l⟩ b' i')
  | .index _ _ none => none
  | .slice l b i j =>
    (eraseExpr path b).bind fun b' =>
    (eraseExprOpt path i).bind fun i' =>
    (eraseExprOpt path j).bind fun j' => some (.slice ⟨path, l⟩ b' i' j')
def eraseExprOpt (path : Bytes) : Option PExpr → Option (Option Expr)
  | none => some none
  | some e => (eraseExpr path e).bind fun e' => some (some e')
/-- `es.mapM (exprA path)` -/
def eraseExprs (path : Bytes) : List PExpr → Option (List Expr)
  | [] => some []
  | e :: es =>
    (eraseExpr path e).bind fun e' =>
    (eraseExprs path es).bind fun es' => some (e' :: es')
end

/-- a traversal in `Option` written out as a recursion over the list (`eraseExprs`, `eraseCmds`, `eraseParams`,
    `eraseStmts`) answers `l'` exactly when `f` maps `l` onto `l'` element by element -/
theorem mapM_iff {α β} {f : α → Option β} {g : List α → Option (List β)} (h0 : g [] = some [])
    (h1 : ∀ x xs, g (x :: xs) = (f x).bind fun y => (g xs).bind fun ys => some (y :: ys)) :
    ∀ {l l'}, g l = some l' ↔ l.map f = l'.map some
  | [], l' => by cases l' <;> simp [h0]
  | x :: xs, [] => by simp [h1, Option.bind_eq_some_iff]
  | x :: xs, y :: ys => by
    rw [h1]
    simp only [Option.bind_eq_some_iff, Option.some.injEq, List.cons.injEq, List.map_cons, ← mapM_iff h0 h1 (l := xs)]
    exact ⟨fun ⟨_, ha, _, hb, e1, e2⟩ => ⟨e1 ▸ ha, e2 ▸ hb⟩, fun ⟨ha, hb⟩ => ⟨y, ha, ys, hb, rfl, rfl⟩⟩

theorem mem_of_map_some {α β} {f : α → Option β} {l : List α} {l' : List β} (h : l.map f = l'.map some)
    {y : β} (hy : y ∈ l') : ∃ x ∈ l, f x = some y :=
  List.mem_map.mp (h ▸ List.mem_map_of_mem hy)

theorem length_of_map_some {α β} {f : α → Option β} {l : List α} {l' : List β} (h : l.map f = l'.map some) :
    l'.length = l.length := by simpa using (congrArg List.length h).symm

theorem eraseExprs_iff {path : Bytes} {es : List PExpr} {es' : List Expr} :
    eraseExprs path es = some es' ↔ es.map (eraseExpr path) = es'.map some :=
  mapM_iff (g := eraseExprs path) rfl fun _ _ => rfl

/-! ### erasure keeps the head constructor -/

/-- the head constructor of an evaluator expression, in the parser's `NT` -/
def ntE : Expr → NT
  | .ident .. => .ident | .field .. => .field | .chain .. => .chain | .underscore .. => .underscore
  | .nilLit .. => .nil_ | .boolLit .. => .bool | .strLit .. => .string | .numLit .. => .number
  | .add .. => .additive | .mul .. => .mul | .cmp .. => .cmp | .numcmp .. => .numcmp
  | .logic .. => .logic | .not .. => .not_ | .ternary .. => .ternary | .call .. => .call
  | .index .. => .index | .slice .. => .slice

open Option in
theorem eraseExpr_nt {path : Bytes} {e : PExpr} {e' : Expr} (h : eraseExpr path e = some e') : ntE e' = e.nt := by
  fun_cases eraseExpr path e <;> simp only [eraseExpr, bind_eq_some_iff, some.injEq, reduceCtorEq] at h <;>
    grind [ntE, PExpr.nt]

theorem eraseExpr_isUnd {path : Bytes} {e : PExpr} {e' : Expr} (h : eraseExpr path e = some e') :
    Eval.isUnderscore e' = e.isUnd := by
  have h1 : Eval.isUnderscore e' = decide (ntE e' = .underscore) := by cases e' <;> rfl
  have h2 : e.isUnd = decide (e.nt = .underscore) := by
    cases e with
    | binary k => cases k <;> rfl
    | _ => rfl
  rw [h1, h2, eraseExpr_nt h]

/-- what a left side needs, read off the head constructor: both the plain and the range-header form -/
theorem leftOk_of_nt {isLet : Bool} {e' : Expr} (h : assignable (ntE e') = true)
    (h2 : isLet = true → ntE e' = NT.ident ∨ ntE e' = NT.underscore) : Eval.LeftOk isLet e' ∧ Eval.LeftSetOk e' := by
  cases e' with
  | ident | underscore => exact ⟨trivial, trivial⟩
  | field | chain => exact ⟨by cases isLet <;> first | rfl | exact absurd (h2 rfl) (by simp [ntE]), trivial⟩
  | _ => cases h

theorem mulTok_mulOp (op : Tok) : MulTok op → Eval.MulOp op := (Tok.mul_range op).mp

theorem eraseExprs_slot {path : Bytes} {es : List PExpr} {es' : List Expr} {slot : Bool}
    (h : eraseExprs path es = some es') (hs : SlotShape es slot) : Eval.SlotOk es' slot := by
  intro ha
  obtain ⟨y, hy, hu⟩ := List.any_eq_true.mp ha
  obtain ⟨x, hx, hxy⟩ := mem_of_map_some (eraseExprs_iff.mp h) hy
  exact hs (List.any_eq_true.mpr ⟨x, hx, eraseExpr_isUnd hxy ▸ hu⟩)

/-! ### shaped expressions erase to well-formed expressions -/

section
open Option Eval

/-- By induction along the erasure (one case per clause of `eraseExpr`): `PExpr.Shaped` and `ExprWf` unfold to
    the same conjunction of the parts' facts.  The two clauses that are not structural are the operator test of a
    product (`mulTok_mulOp`) and the slot flag of a call (`eraseExprs_slot`). -/
theorem erase_wf (path : Bytes) :
    (∀ e, PExpr.Shaped e → ∀ e', eraseExpr path e = some e' → ExprWf e') ∧
    (∀ es, PExpr.ShapedList es → ∀ es', eraseExprs path es = some es' → ExprsWf es') ∧
    (∀ o, PExpr.ShapedOpt o → ∀ o', eraseExprOpt path o = some o' → ExprOWf o') := by
  apply eraseExpr.mutual_induct <;> intros <;>
    simp only [eraseExpr, eraseExprOpt, eraseExprs, bind_eq_some_iff, some.injEq, reduceCtorEq, PExpr.Shaped,
      PExpr.ShapedList, PExpr.ShapedOpt] at * <;>
    grind [ExprWf, ExprsWf, ExprOWf, mulTok_mulOp, eraseExprs_slot]

theorem eraseExpr_wf {path : Bytes} {e : PExpr} {e' : Expr} (hs : Shp.ok e) (h : eraseExpr path e = some e') :
    ExprWf e' := (erase_wf path).1 e hs e' h

theorem eraseExprs_wf {path : Bytes} {es : List PExpr} {es' : List Expr} (hs : Shp.ok es)
    (h : eraseExprs path es = some es') : ExprsWf es' :=
  (erase_wf path).2.1 es ((PExpr.shapedList_iff es).mpr hs) es' h

theorem eraseExprOpt_wf {path : Bytes} {o : Option PExpr} {o' : Option Expr} (hs : Shp.ok o)
    (h : eraseExprOpt path o = some o') : ExprOWf o' :=
  (erase_wf path).2.2 o ((PExpr.shapedOpt_iff o).mpr hs) o' h

end

/-! ### assignments, commands, pipelines, parameter lists -/

def eraseSet (path : Bytes) (s : PSet) : Option SetN :=
  (eraseExprs path s.left).bind fun left =>
  (eraseExprs path s.right).bind fun right =>
  some { loc := ⟨path, s.line⟩, isLet := s.isLet, lookup := s.lookup, left := left, right := right }

/-- `match set with | none => pure none | some x => do pure (some (← setA path x))` -/
def eraseSetOpt (path : Bytes) : Option PSet → Option (Option SetN)
  | none => some none
  | some x => (eraseSet path x).bind fun x' => some (some x')

/-- `cmdA`: a nil argument list erases to `([], false)` -/
def eraseCmd (path : Bytes) (c : PCmd) : Option Cmd :=
  (match c.args with
   | none => some (([] : List Expr), false)
   | some as => (eraseExprs path as).bind fun as' => some (as', true)).bind fun an =>
  (eraseExpr path c.base).bind fun base =>
  some { loc := ⟨path, c.line⟩, base := base, args := an.1, argsNonNil := an.2, hasSlot := c.hasSlot }

/-- `cmds.mapM (cmdA path)` -/
def eraseCmds (path : Bytes) : List PCmd → Option (List Cmd)
  | [] => some []
  | c :: cs =>
    (eraseCmd path c).bind fun c' =>
    (eraseCmds path cs).bind fun cs' => some (c' :: cs')

def erasePipe (path : Bytes) (p : PPipe) : Option Pipe :=
  (eraseCmds path p.cmds).bind fun cmds => some { loc := ⟨path, p.line⟩, cmds := cmds }

/-- `match pipe with | none => pure none | some x => do pure (some (← pipeA path x))` -/
def erasePipeOpt (path : Bytes) : Option PPipe → Option (Option Pipe)
  | none => some none
  | some x => (erasePipe path x).bind fun x' => some (some x')

def eraseParams (path : Bytes) : List PParam → Option (List Param)
  | [] => some []
  | p :: ps =>
    (eraseExprOpt path p.dflt).bind fun d =>
    (eraseParams path ps).bind fun ps' => some ({ name := p.name, dflt := d } :: ps')

/-- `match params with | none => pure none | some x => do pure (some (← paramsA path x))` -/
def eraseParamsOpt (path : Bytes) : Option (List PParam) → Option (Option (List Param))
  | none => some none
  | some x => (eraseParams path x).bind fun x' => some (some x')

section
open Option Eval

theorem eraseCmds_iff {path : Bytes} {cs : List PCmd} {cs' : List Cmd} :
    eraseCmds path cs = some cs' ↔ cs.map (eraseCmd path) = cs'.map some :=
  mapM_iff (g := eraseCmds path) rfl fun _ _ => rfl

theorem eraseParams_iff {path : Bytes} {ps : List PParam} {ps' : List Param} :
    eraseParams path ps = some ps' ↔
      ps.map (fun p => (eraseExprOpt path p.dflt).bind fun d => some { name := p.name, dflt := d }) = ps'.map some :=
  mapM_iff (g := eraseParams path) rfl fun p _ => by
    simp only [eraseParams]; cases eraseExprOpt path p.dflt <;> rfl

/-- what both kinds of header need of an erased assignment -/
theorem eraseSet_spec {path : Bytes} {s : PSet} {s' : SetN} (hs : PSet.Shaped s) (h : eraseSet path s = some s') :
    ExprsWf s'.right ∧ (∀ l ∈ s'.left, LeftOk s'.isLet l ∧ LeftSetOk l) ∧ s'.left.length = s.left.length ∧
      s'.right.length = s.right.length ∧ s'.lookup = s.lookup := by
  simp only [eraseSet, bind_eq_some_iff, some.injEq] at h
  obtain ⟨left, hl, right, hr, rfl⟩ := h
  have hl := eraseExprs_iff.mp hl
  refine ⟨eraseExprs_wf hs.2.1 hr, fun l hl' => ?_, length_of_map_some hl,
    length_of_map_some (eraseExprs_iff.mp hr), rfl⟩
  obtain ⟨x, hx, e⟩ := mem_of_map_some hl hl'
  have hn := eraseExpr_nt e
  exact leftOk_of_nt (hn ▸ (hs.2.2.1 x hx).1) (hn ▸ (hs.2.2.1 x hx).2)

theorem eraseSet_wf {path : Bytes} {s : PSet} {s' : SetN} (hs : PSet.Shaped s) (hl : PSet.LenOk s)
    (h : eraseSet path s = some s') : SetWf s' := by
  obtain ⟨hr, hleft, hll, hrl, hk⟩ := eraseSet_spec hs h
  obtain ⟨-, -, -, -, hrne, hlk⟩ := hs
  refine ⟨hr, fun l h => (hleft l h).1, fun h => ?_, fun h => by rw [hll, hrl]; exact hl (hk ▸ h)⟩
  obtain ⟨rgt, rest, e'⟩ := List.exists_cons_of_length_pos (hrl ▸ List.length_pos_iff.mpr hrne)
  match s'.left, hll ▸ hlk (hk ▸ h) with
  | [l0, l1], _ => exact ⟨l0, l1, rgt, rest, rfl, e'⟩

theorem eraseSet_rangeWf {path : Bytes} {s : PSet} {s' : SetN} (hs : PSet.Shaped s)
    (h : eraseSet path s = some s') : RangeSetWf s' := by
  obtain ⟨hr, hleft, hll, hrl, -⟩ := eraseSet_spec hs h
  obtain ⟨-, -, -, hlne, hrne, -⟩ := hs
  obtain ⟨rgt, rest, e⟩ := List.exists_cons_of_length_pos (hrl ▸ List.length_pos_iff.mpr hrne)
  exact ⟨fun h0 => hlne (List.length_eq_zero_iff.mp (hll ▸ congrArg List.length h0)),
    fun l h => Or.inr (hleft l h).2, rgt, rest, e, (e ▸ hr : ExprsWf (rgt :: rest)).1⟩

theorem eraseSetOpt_wf {path : Bytes} {o : Option PSet} {o' : Option SetN} (hs : Shp.ok o)
    (hl : PSet.LenOkOpt o) (h : eraseSetOpt path o = some o') : SetOWf o' := by
  cases o with
  | none => cases h; trivial
  | some x =>
    simp only [eraseSetOpt, bind_eq_some_iff, some.injEq] at h
    obtain ⟨x', hx, rfl⟩ := h
    exact eraseSet_wf (hs x rfl) hl hx

theorem eraseCmd_wf {path : Bytes} {c : PCmd} {c' : Cmd} (hs : PCmd.Shaped c)
    (h : eraseCmd path c = some c') (first : Bool) : CmdWf first c' := by
  obtain ⟨hb, ha, hsl⟩ := hs
  simp only [eraseCmd, bind_eq_some_iff, some.injEq] at h
  obtain ⟨an, han, base, hbase, rfl⟩ := h
  have hbw := eraseExpr_wf hb hbase
  cases hargs : c.args with
  | none => rw [hargs] at han; cases han; exact ⟨hbw, trivial, fun _ h => nomatch h⟩
  | some as =>
    rw [hargs] at han
    simp only [bind_eq_some_iff, some.injEq] at han
    obtain ⟨as', has, rfl⟩ := han
    exact ⟨hbw, eraseExprs_wf (ha as hargs) has,
      fun _ => eraseExprs_slot has (by simpa [PCmd.argList, hargs] using hsl)⟩

theorem erasePipe_wf {path : Bytes} {p : PPipe} {p' : Pipe} (hs : PPipe.Shaped p)
    (h : erasePipe path p = some p') : PipeWf p' := by
  simp only [erasePipe, bind_eq_some_iff, some.injEq] at h
  obtain ⟨cmds, hc, rfl⟩ := h
  have hm := eraseCmds_iff.mp hc
  have hall : ∀ c' ∈ cmds, ∀ first, CmdWf first c' := fun c' hc' =>
    let ⟨c, hcm, e⟩ := mem_of_map_some hm hc'; eraseCmd_wf (hs.2 c hcm) e
  match cmds, hm, hall with
  | [], hm, _ => exact absurd (List.map_eq_nil_iff.mp hm) hs.1
  | c0 :: rest, _, hall => exact ⟨hall c0 List.mem_cons_self true, fun d hd => hall d (List.mem_cons_of_mem _ hd) false⟩

theorem erasePipeOpt_wf {path : Bytes} {o : Option PPipe} {o' : Option Pipe} (hs : Shp.ok o)
    (h : erasePipeOpt path o = some o') : PipeOWf o' := by
  cases o with
  | none => cases h; trivial
  | some x =>
    simp only [erasePipeOpt, bind_eq_some_iff, some.injEq] at h
    obtain ⟨x', hx, rfl⟩ := h
    exact erasePipe_wf (hs x rfl) hx

theorem eraseParams_wf {path : Bytes} {ps : List PParam} {ps' : List Param} (hs : Shp.ok ps)
    (h : eraseParams path ps = some ps') : ParamsWf ps' := fun q hq => by
  obtain ⟨p, hp, e⟩ := mem_of_map_some (eraseParams_iff.mp h) hq
  simp only [bind_eq_some_iff, some.injEq] at e
  obtain ⟨d, hd, rfl⟩ := e
  exact eraseExprOpt_wf (hs p hp) hd

theorem eraseParamsOpt_wf {path : Bytes} {o : Option (List PParam)} {o' : Option (List Param)}
    (hs : Shp.ok o) (h : eraseParamsOpt path o = some o') : ParamsOWf o' ∧ o'.isSome = o.isSome := by
  cases o with
  | none => cases h; exact ⟨trivial, rfl⟩
  | some x =>
    simp only [eraseParamsOpt, bind_eq_some_iff, some.injEq] at h
    obtain ⟨x', hx, rfl⟩ := h
    exact ⟨eraseParams_wf (hs x rfl) hx, rfl⟩

/-- the header of a range: the assignment if there is one, else the expression -/
theorem eraseRangeHead_wf {path : Bytes} {set : Option PSet} {e : Option PExpr} {s' : Option SetN}
    {e' : Option Expr} (hs : Shp.ok set) (hne : set = none → e ≠ none) (he : Shp.ok e)
    (h1 : eraseSetOpt path set = some s') (h2 : eraseExprOpt path e = some e') : RangeHeadWf s' e' := by
  cases set with
  | some x =>
    simp only [eraseSetOpt, bind_eq_some_iff, some.injEq] at h1
    obtain ⟨x', hx, rfl⟩ := h1
    exact eraseSet_rangeWf (hs x rfl) hx
  | none =>
    cases h1
    cases e with
    | none => exact absurd rfl (hne rfl)
    | some c =>
      simp only [eraseExprOpt, bind_eq_some_iff, some.injEq] at h2
      obtain ⟨c', hc, rfl⟩ := h2
      exact eraseExpr_wf (he c rfl) hc

end

/-! ### statements -/

mutual
def eraseStmt (path : Bytes) : PStmt → Option Stmt
  | .text l b => some (.text ⟨path, l⟩ b)
  | .action l set pipe =>
    (eraseSetOpt path set).bind fun s =>
    (erasePipeOpt path pipe).bind fun p => some (.action ⟨path, l⟩ s p)
  | .branch isIf l set e _ list els =>
    (eraseSetOpt path set).bind fun s =>
    (eraseStmts path list).bind fun body =>
    (eraseEls path els).bind fun el =>
    if isIf then
      match e with
      | some c => (eraseExpr path c).bind fun c' => some (.ifS ⟨path, l⟩ s c' body el)
      | none => none
    else (eraseExprOpt path e).bind fun e' => some (.rangeS ⟨path, l⟩ s e' body el)
  | .block l name params ctx _ list content =>
    (eraseParams path params).bind fun ps =>
    (eraseExprOpt path ctx).bind fun ctx' =>
    (eraseStmts path list).bind fun body =>
    (eraseEls path content).bind fun content' => some (.block ⟨path, l⟩ name ps ctx' body content')
  | .yield l name params ctx content isC =>
    (eraseParamsOpt path params).bind fun ps =>
    (eraseExprOpt path ctx).bind fun ctx' =>
    (eraseEls path content).bind fun content' => some (.yield ⟨path, l⟩ name ps ctx' content' isC)
  | .include l name ctx =>
    (eraseExpr path name).bind fun name' =>
    (eraseExprOpt path ctx).bind fun ctx' => some (.include ⟨path, l⟩ name' ctx')
  | .tryS l _ list none =>
    (eraseStmts path list).bind fun body => some (.tryS ⟨path, l⟩ body false none none)
  | .tryS l _ list (some (_, ev, _, clist)) =>
    (eraseStmts path list).bind fun body =>
    (eraseStmts path clist).bind fun cb => some (.tryS ⟨path, l⟩ body true (ev.map (·.2)) (some cb))
  | .ret l e => (eraseExpr path e).bind fun e' => some (.ret ⟨path, l⟩ e')
  | .endM => none
  | .elseM _ => none
  | .contentM => none
  | .catchM _ _ _ _ => none
/-- `ns.mapM (stmtA path)` -/
def eraseStmts (path : Bytes) : List PStmt → Option (List Stmt)
  | [] => some []
  | s :: ss =>
    (eraseStmt path s).bind fun s' =>
    (eraseStmts path ss).bind fun ss' => some (s' :: ss')
def eraseEls (path : Bytes) : Option (Nat × List PStmt) → Option (Option (List Stmt))
  | none => some none
  | some (_, ns) => (eraseStmts path ns).bind fun ns' => some (some ns')
end

/-- the tree `parseFile` hands to the store (its block table is filled in by `withBlocks`) -/
def eraseTmpl (path : Bytes) (t : PTmpl) : Option Tmpl :=
  (eraseStmts path t.root).map fun root =>
    { name := t.name, ext := t.ext, imports := t.imports, blocks := [], root := root }

section
open Option Eval

/-- By induction along the erasure, as for expressions: every clause of `StmtWf` is the erased part's lemma
    (`eraseSetOpt_wf`, `erasePipeOpt_wf`, `eraseExpr_wf`, `eraseExprOpt_wf`, `eraseParams_wf`, `eraseParamsOpt_wf`)
    or an induction hypothesis.  Only the header of `if` / `range` takes a case distinction of its own. -/
theorem eraseStmt_wf_all (path : Bytes) :
    (∀ s, PStmt.Shaped s → ∀ s', eraseStmt path s = some s' → StmtWf s') ∧
    (∀ o, PStmt.ShapedEls o → ∀ o', eraseEls path o = some o' → StmtsOWf o') ∧
    (∀ l, PStmt.ShapedList l → ∀ l', eraseStmts path l = some l' → StmtsWf l') := by
  apply eraseStmt.mutual_induct
  case case3 =>
    intro isIf l set e _ list els ihl ihe ⟨hset, hlen, hne, he, hlist, hels⟩ s' h
    simp only [eraseStmt, bind_eq_some_iff] at h
    obtain ⟨st, hst, body, hbody, el, hel, h⟩ := h
    have hbw := ihl hlist body hbody
    have hew := ihe hels el hel
    cases isIf with
    | true =>
      cases e with
      | none => cases h
      | some c =>
        simp only [if_true, bind_eq_some_iff, some.injEq] at h
        obtain ⟨c', hc, rfl⟩ := h
        exact ⟨eraseSetOpt_wf hset (hlen rfl) hst, eraseExpr_wf (he c rfl) hc, hbw, hew⟩
    | false =>
      simp only [Bool.false_eq_true, if_false, bind_eq_some_iff, some.injEq] at h
      obtain ⟨e', he', rfl⟩ := h
      exact ⟨eraseRangeHead_wf hset hne he hst he', hbw, hew⟩
  all_goals
    intros
    simp only [eraseStmt, eraseStmts, eraseEls, bind_eq_some_iff, some.injEq, reduceCtorEq, PStmt.Shaped,
      PStmt.ShapedList, PStmt.ShapedEls, PStmt.ShapedCatch] at * <;>
    grind [StmtWf, StmtsWf, StmtsOWf, eraseSetOpt_wf, erasePipeOpt_wf, eraseExpr_wf, eraseExprOpt_wf, eraseParams_wf,
      eraseParamsOpt_wf]

theorem eraseStmt_wf (path : Bytes) (s : PStmt) (s' : Stmt) (hs : PStmt.Shaped s) (h : eraseStmt path s = some s') :
    StmtWf s' := (eraseStmt_wf_all path).1 s hs s' h

theorem eraseEls_wf (path : Bytes) : ∀ (o : Option (Nat × List PStmt)) (o' : Option (List Stmt)),
    PStmt.ShapedEls o → eraseEls path o = some o' → Eval.StmtsOWf o' :=
  fun o o' hs h => (eraseStmt_wf_all path).2.1 o hs o' h

theorem eraseTmpl_wf {path : Bytes} {t : PTmpl} {t' : Tmpl} (hs : ∀ n ∈ t.root, PStmt.Shaped n)
    (h : eraseTmpl path t = some t') : TmplWf t' := by
  simp only [eraseTmpl, map_eq_some_iff] at h
  obtain ⟨root, hroot, rfl⟩ := h
  exact ⟨fun _ hp => (nomatch hp), (eraseStmt_wf_all path).2.2 _ ((PStmt.shapedList_iff _).mpr hs) root hroot⟩

/-! ### the block tables: an effective table holds nothing but entries of the tables it was built from -/

theorem addAll_wf {t src : List (Bytes × BlockN)} (ht : BlocksWf t) (hs : BlocksWf src) :
    BlocksWf (Blocks.addAll t src) :=
  List.foldlRecOn (motive := BlocksWf) src _ ht fun _ ih kv hkv p hp =>
    (Eval.mem_aset hp).elim (fun e => e ▸ hs kv hkv) (ih p)

theorem processed_wf {ext own : List (Bytes × BlockN)} {imports : List (List (Bytes × BlockN))} (he : BlocksWf ext)
    (hi : ∀ i ∈ imports, BlocksWf i) (ho : BlocksWf own) : BlocksWf (Blocks.processed ext imports own) :=
  addAll_wf (List.foldlRecOn (motive := BlocksWf) imports _ he fun _ ih i hi' => addAll_wf ih (hi i hi')) ho

theorem ownRegs_wf : ∀ (fuel : Nat) (l : List Stmt), StmtsWf l → BlocksWf (Blocks.ownRegs fuel l)
  | 0, _, _ => fun _ hp => nomatch hp
  | fuel + 1, l, hl => by
    have ih := ownRegs_wf fuel
    have iho : ∀ o : Option (List Stmt), StmtsOWf o →
        BlocksWf (match o with | some c => Blocks.ownRegs fuel c | none => []) := fun o ho =>
      match o with
      | none => fun _ hp => nomatch hp
      | some c => ih c ho
    intro p hp
    obtain ⟨s, hsl, hps⟩ := List.mem_flatMap.mp hp
    have hs := hl.mem s hsl
    cases s with
    | block loc name params ctx body content =>
      obtain ⟨h1, h2, h3, h4⟩ := hs
      simp only [List.mem_append, List.mem_singleton] at hps
      rcases hps with (h | h) | rfl
      · exact ih body h3 p h
      · exact iho content h4 p h
      · exact ⟨h1, h2, h3, h4⟩
    | ifS loc set cond thn els => exact (List.mem_append.mp hps).elim (ih thn hs.2.2.1 p) (iho els hs.2.2.2 p)
    | rangeS loc set e body els => exact (List.mem_append.mp hps).elim (ih body hs.2.1 p) (iho els hs.2.2 p)
    | yield loc name params ctx content isC => exact iho content hs.2.2.2 p hps
    | tryS loc body hc cv cb => exact (List.mem_append.mp hps).elim (ih body hs.1 p) (iho cb hs.2 p)
    | _ => cases hps

theorem tableOf_wf (store : List (Bytes × Option Tmpl))
    (h : ∀ p ∈ store, ∀ t, p.2 = some t → StmtsWf t.root) :
    ∀ (fuel : Nat) (name : Bytes), BlocksWf (Blocks.tableOf store fuel name)
  | 0, _ => fun _ hp => nomatch hp
  | fuel + 1, name => by
    rw [Blocks.tableOf]
    split
    · rename_i n t hf
      refine processed_wf ?_ (List.forall_mem_map.mpr fun nm _ => tableOf_wf store h fuel nm)
        (ownRegs_wf 64 t.root (h _ (List.mem_of_find?_eq_some hf) t rfl))
      cases t.ext with
      | none => exact fun _ hp => nomatch hp
      | some e => exact tableOf_wf store h fuel e
    · exact fun _ hp => nomatch hp

end

/-- the step of `execSrcCmd` before the evaluator runs: every usable template gets its effective block table -/
def withBlocks (usable : List (Bytes × Option Tmpl)) : List (Bytes × Option Tmpl) :=
  usable.map fun (p, t) => (p, t.map fun tm => { tm with blocks := Blocks.tableOf usable 32 p })

open Option Eval in
theorem withBlocks_envWf (usable : List (Bytes × Option Tmpl))
    (h : ∀ p ∈ usable, ∀ t, p.2 = some t → StmtsWf t.root) (env : Env)
    (hs : env.store = withBlocks usable) : EnvWf env := by
  intro p hp t ht
  rw [hs, withBlocks] at hp
  obtain ⟨⟨q, tq⟩, hq, rfl⟩ := List.mem_map.mp hp
  simp only [map_eq_some_iff] at ht
  obtain ⟨tm, rfl, rfl⟩ := ht
  exact ⟨tableOf_wf usable h 32 q, h _ hq tm rfl⟩

end JetVerif.Parse
