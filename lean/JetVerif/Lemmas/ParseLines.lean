/-
  Every line recorded in a parsed tree lies inside the source.

  Each node the parser builds records `lineNumber()` at the moment it is created, and `lineNumber` is
  `1 + countNl (input[:lastPos])` - between 1 and the number of lines of the source whenever the slice
  exists at all.  The predicates `PExpr.LinesOk`, `PStmt.LinesOk`, ... say that of every `line` field of a
  node and of all its descendants; the partial-correctness triple `Keeps` ("if `m` returns, the state still
  has the same input, every block registered so far has good lines, and so has the value returned") is an
  instance of `Ret` (Lemmas/ParseRet.lean) and is proved of all productions of Model/Parse.lean by induction
  on the fuel; `rwalk` (there) walks a production along its shape, given the triples of the productions it
  calls, with the postcondition the result type determines (class `Lined`).  The only facts about the state the
  argument needs are that no production replaces `input` and that `registerBlock` is the only writer of `passed`
  (`Frame`); literal conversion (`cfg.lit`) and the loader (`cfg.load`) produce no lines; the tests a production makes
  do not matter, so the conditional rule `Keeps.ite` hands nothing to the branches.
-/
import JetVerif.Lemmas.ParseSafe
import JetVerif.Lemmas.ParseRet

namespace JetVerif.Parse

/- `PExpr` is nested through `Option` and `List`, so the predicate comes with its own `…Opt` and `…List`, which
   structural recursion accepts; `PExpr.linesOkList_iff` etc. relate them to `Lined.ok` of the option or list. -/
mutual
def PExpr.LinesOk (inp : Bytes) : PExpr → Prop
  | .ident l _ => LineOk inp l
  | .field l _ => LineOk inp l
  | .chain l b _ => LineOk inp l ∧ PExpr.LinesOk inp b
  | .underscore l => LineOk inp l
  | .nilLit l => LineOk inp l
  | .boolLit l _ => LineOk inp l
  | .strLit l _ => LineOk inp l
  | .numLit l _ _ => LineOk inp l
  | .binary _ l _ lo r => LineOk inp l ∧ PExpr.LinesOkOpt inp lo ∧ PExpr.LinesOk inp r
  | .not l e => LineOk inp l ∧ PExpr.LinesOk inp e
  | .ternary l c a b => LineOk inp l ∧ PExpr.LinesOk inp c ∧ PExpr.LinesOk inp a ∧ PExpr.LinesOk inp b
  | .call l b args _ => LineOk inp l ∧ PExpr.LinesOk inp b ∧ PExpr.LinesOkList inp args
  | .index l b i => LineOk inp l ∧ PExpr.LinesOk inp b ∧ PExpr.LinesOkOpt inp i
  | .slice l b i j => LineOk inp l ∧ PExpr.LinesOk inp b ∧ PExpr.LinesOkOpt inp i ∧ PExpr.LinesOkOpt inp j
def PExpr.LinesOkOpt (inp : Bytes) : Option PExpr → Prop
  | none => True
  | some e => PExpr.LinesOk inp e
def PExpr.LinesOkList (inp : Bytes) : List PExpr → Prop
  | [] => True
  | e :: es => PExpr.LinesOk inp e ∧ PExpr.LinesOkList inp es
end

/-- what a type of parser results has to satisfy: every line recorded in the value is a line of the source -/
class Lined (α : Type) where
  ok : Bytes → α → Prop

instance : Lined PExpr := ⟨PExpr.LinesOk⟩
/-- a `Nat` returned by a production is a line (`lineNumber`, the line of a list, of a clause) -/
instance : Lined Nat := ⟨LineOk⟩
instance : Lined Item := ⟨fun _ _ => True⟩
instance : Lined Tok := ⟨fun _ _ => True⟩
instance : Lined Unit := ⟨fun _ _ => True⟩
instance : Lined Bool := ⟨fun _ _ => True⟩
instance : Lined UInt8 := ⟨fun _ _ => True⟩
instance : Lined PSt := ⟨fun _ _ => True⟩
instance {α β} [Lined α] [Lined β] : Lined (α × β) := ⟨fun i p => Lined.ok i p.1 ∧ Lined.ok i p.2⟩
instance {α β} [Lined α] [Lined β] : Lined (α ⊕ β) :=
  ⟨fun i p => match p with | .inl a => Lined.ok i a | .inr b => Lined.ok i b⟩
instance {α} [Lined α] : Lined (Option α) := ⟨fun i o => ∀ a, o = some a → Lined.ok i a⟩
instance {α} [Lined α] : Lined (List α) := ⟨fun i l => ∀ a, a ∈ l → Lined.ok i a⟩

def PSet.LinesOk (inp : Bytes) (s : PSet) : Prop :=
  LineOk inp s.line ∧ Lined.ok inp s.left ∧ Lined.ok inp s.right
instance : Lined PSet := ⟨PSet.LinesOk⟩

/-- `callLine` is the line of the embedded call expression when the command's base was one, and 0 (the
    zero `CallExprNode`) otherwise -/
def PCmd.LinesOk (inp : Bytes) (c : PCmd) : Prop :=
  LineOk inp c.line ∧ (c.callLine = 0 ∨ LineOk inp c.callLine) ∧ Lined.ok inp c.base ∧ Lined.ok inp c.args
instance : Lined PCmd := ⟨PCmd.LinesOk⟩

def PPipe.LinesOk (inp : Bytes) (p : PPipe) : Prop := LineOk inp p.line ∧ Lined.ok inp p.cmds
instance : Lined PPipe := ⟨PPipe.LinesOk⟩

def PParam.LinesOk (inp : Bytes) (p : PParam) : Prop := Lined.ok inp p.dflt
instance : Lined PParam := ⟨PParam.LinesOk⟩

mutual
def PStmt.LinesOk (inp : Bytes) : PStmt → Prop
  | .text l _ => LineOk inp l
  | .action l set pipe => LineOk inp l ∧ Lined.ok inp set ∧ Lined.ok inp pipe
  | .branch _ l set e ll list els =>
    LineOk inp l ∧ Lined.ok inp set ∧ Lined.ok inp e ∧ LineOk inp ll ∧ PStmt.LinesOkList inp list ∧
      PStmt.LinesOkEls inp els
  | .block l _ params ctx ll list content =>
    LineOk inp l ∧ Lined.ok inp params ∧ Lined.ok inp ctx ∧ LineOk inp ll ∧ PStmt.LinesOkList inp list ∧
      PStmt.LinesOkEls inp content
  | .yield l _ params ctx content _ =>
    LineOk inp l ∧ Lined.ok inp params ∧ Lined.ok inp ctx ∧ PStmt.LinesOkEls inp content
  | .include l name ctx => LineOk inp l ∧ Lined.ok inp name ∧ Lined.ok inp ctx
  | .tryS l ll list catchC => LineOk inp l ∧ LineOk inp ll ∧ PStmt.LinesOkList inp list ∧ PStmt.LinesOkCatch inp catchC
  | .ret l e => LineOk inp l ∧ Lined.ok inp e
  | .endM => True
  | .elseM l => LineOk inp l
  | .contentM => True
  | .catchM l ev ll list => LineOk inp l ∧ Lined.ok inp ev ∧ LineOk inp ll ∧ PStmt.LinesOkList inp list
def PStmt.LinesOkList (inp : Bytes) : List PStmt → Prop
  | [] => True
  | e :: es => PStmt.LinesOk inp e ∧ PStmt.LinesOkList inp es
def PStmt.LinesOkEls (inp : Bytes) : Option (Nat × List PStmt) → Prop
  | none => True
  | some (l, list) => LineOk inp l ∧ PStmt.LinesOkList inp list
def PStmt.LinesOkCatch (inp : Bytes) : Option (Nat × Option (Nat × Bytes) × Nat × List PStmt) → Prop
  | none => True
  | some (l, ev, ll, list) => LineOk inp l ∧ Lined.ok inp ev ∧ LineOk inp ll ∧ PStmt.LinesOkList inp list
end

instance : Lined PStmt := ⟨PStmt.LinesOk⟩

def PTmpl.LinesOk (inp : Bytes) (t : PTmpl) : Prop :=
  LineOk inp t.rootLine ∧ (∀ n ∈ t.root, PStmt.LinesOk inp n) ∧ (∀ b ∈ t.passed, PStmt.LinesOk inp b.2)

section oklemmas
variable (inp : Bytes)

theorem PExpr.linesOkList_iff (l : List PExpr) : PExpr.LinesOkList inp l ↔ Lined.ok inp l := by
  show _ ↔ ∀ e, e ∈ l → PExpr.LinesOk inp e
  induction l with
  | nil => simp [PExpr.LinesOkList]
  | cons e es ih => simp [PExpr.LinesOkList, ih]

theorem PExpr.linesOkOpt_iff (o : Option PExpr) : PExpr.LinesOkOpt inp o ↔ Lined.ok inp o := by
  show _ ↔ ∀ e, o = some e → PExpr.LinesOk inp e
  cases o <;> simp [PExpr.LinesOkOpt]

theorem PStmt.linesOkList_iff (l : List PStmt) : PStmt.LinesOkList inp l ↔ Lined.ok inp l := by
  show _ ↔ ∀ e, e ∈ l → PStmt.LinesOk inp e
  induction l with
  | nil => simp [PStmt.LinesOkList]
  | cons e es ih => simp [PStmt.LinesOkList, ih]

@[simp] theorem ok_nat (l : Nat) : Lined.ok inp l ↔ LineOk inp l := Iff.rfl
@[simp] theorem ok_item (t : Item) : Lined.ok inp t ↔ True := Iff.rfl
@[simp] theorem ok_tok (t : Tok) : Lined.ok inp t ↔ True := Iff.rfl
@[simp] theorem ok_unit (t : Unit) : Lined.ok inp t ↔ True := Iff.rfl
@[simp] theorem ok_bool (t : Bool) : Lined.ok inp t ↔ True := Iff.rfl
@[simp] theorem ok_pst (t : PSt) : Lined.ok inp t ↔ True := Iff.rfl
@[simp] theorem ok_bytes (t : Bytes) : Lined.ok inp t ↔ True := ⟨fun _ => trivial, fun _ _ _ => trivial⟩
@[simp] theorem ok_bytesList (t : List Bytes) : Lined.ok inp t ↔ True :=
  ⟨fun _ => trivial, fun _ _ _ => (ok_bytes inp _).2 trivial⟩
@[simp] theorem ok_prod {α β} [Lined α] [Lined β] (a : α) (b : β) :
    Lined.ok inp (a, b) ↔ Lined.ok inp a ∧ Lined.ok inp b := Iff.rfl
@[simp] theorem ok_prod' {α β} [Lined α] [Lined β] (p : α × β) :
    Lined.ok inp p ↔ Lined.ok inp p.1 ∧ Lined.ok inp p.2 := Iff.rfl
@[simp] theorem ok_inl {α β} [Lined α] [Lined β] (a : α) : Lined.ok inp (Sum.inl a : α ⊕ β) ↔ Lined.ok inp a := Iff.rfl
@[simp] theorem ok_inr {α β} [Lined α] [Lined β] (b : β) : Lined.ok inp (Sum.inr b : α ⊕ β) ↔ Lined.ok inp b := Iff.rfl
@[simp] theorem ok_none {α} [Lined α] : Lined.ok inp (none : Option α) ↔ True :=
  ⟨fun _ => trivial, fun _ _ h => by cases h⟩
@[simp] theorem ok_some {α} [Lined α] (a : α) : Lined.ok inp (some a) ↔ Lined.ok inp a :=
  ⟨fun h => h a rfl, fun h b e => by cases e; exact h⟩
@[simp] theorem ok_nil {α} [Lined α] : Lined.ok inp ([] : List α) ↔ True :=
  ⟨fun _ => trivial, fun _ _ h => by cases h⟩
@[simp] theorem ok_cons {α} [Lined α] (a : α) (l : List α) :
    Lined.ok inp (a :: l) ↔ Lined.ok inp a ∧ Lined.ok inp l := by
  show (∀ x, x ∈ a :: l → Lined.ok inp x) ↔ Lined.ok inp a ∧ (∀ x, x ∈ l → Lined.ok inp x)
  simp
@[simp] theorem ok_append {α} [Lined α] (l1 l2 : List α) :
    Lined.ok inp (l1 ++ l2) ↔ Lined.ok inp l1 ∧ Lined.ok inp l2 := by
  show (∀ x, x ∈ l1 ++ l2 → Lined.ok inp x) ↔ (∀ x, x ∈ l1 → Lined.ok inp x) ∧ (∀ x, x ∈ l2 → Lined.ok inp x)
  simp [or_imp, forall_and]
theorem ok_list {α} [Lined α] (l : List α) : Lined.ok inp l ↔ ∀ a, a ∈ l → Lined.ok inp a := Iff.rfl

theorem ok_stmtEls (o : Option (Nat × List PStmt)) : PStmt.LinesOkEls inp o ↔ Lined.ok inp o := by
  cases o with
  | none => simp [PStmt.LinesOkEls]
  | some p => obtain ⟨l, list⟩ := p; simp [PStmt.LinesOkEls, PStmt.linesOkList_iff]
theorem ok_stmtCatch (o : Option (Nat × Option (Nat × Bytes) × Nat × List PStmt)) :
    PStmt.LinesOkCatch inp o ↔ Lined.ok inp o := by
  cases o with
  | none => simp [PStmt.LinesOkCatch]
  | some p => obtain ⟨l, ev, ll, list⟩ := p; simp [PStmt.LinesOkCatch, PStmt.linesOkList_iff]

@[simp] theorem ok_expr (e : PExpr) : Lined.ok inp e ↔ PExpr.LinesOk inp e := Iff.rfl
@[simp] theorem ok_stmt (e : PStmt) : Lined.ok inp e ↔ PStmt.LinesOk inp e := Iff.rfl
@[simp] theorem ok_set (e : PSet) : Lined.ok inp e ↔ PSet.LinesOk inp e := Iff.rfl
@[simp] theorem ok_cmd (e : PCmd) : Lined.ok inp e ↔ PCmd.LinesOk inp e := Iff.rfl
@[simp] theorem ok_pipe (e : PPipe) : Lined.ok inp e ↔ PPipe.LinesOk inp e := Iff.rfl
@[simp] theorem ok_param (e : PParam) : Lined.ok inp e ↔ PParam.LinesOk inp e := Iff.rfl

end oklemmas

theorem PExpr.line_ok {inp : Bytes} (e : PExpr) (h : PExpr.LinesOk inp e) : LineOk inp e.line := by
  cases e <;> simp [PExpr.LinesOk] at h <;> simp [PExpr.line] <;> first | exact h | exact h.1

attribute [local simp] PExpr.LinesOk PStmt.LinesOk PSet.LinesOk PCmd.LinesOk PPipe.LinesOk PParam.LinesOk
  PExpr.linesOkList_iff PExpr.linesOkOpt_iff PStmt.linesOkList_iff ok_stmtEls ok_stmtCatch PExpr.line_ok

/-- closes a goal "`x` has good lines" from the hypotheses about its parts -/
macro "kok" : tactic => `(tactic| first
  | with_reducible_and_instances assumption
  | (simp_all; done))

/-- the part of the state the argument is about: the input is the source, every block registered so far
    has good lines -/
def J (inp : Bytes) (s : PSt) : Prop := s.input = inp ∧ ∀ b, b ∈ s.passed → PStmt.LinesOk inp b.2

/-- `Ret (J inp) m Q` written out: the rules below are those of `Ret`, under the names by which `rwalk` looks them up -/
def Keeps (inp : Bytes) {α} (m : PM α) (Q : α → Prop) : Prop :=
  ∀ s, J inp s → ∀ a s', m s = .ok a s' → J inp s' ∧ Q a

/-- `Keeps` with the canonical postcondition of the result type -/
abbrev KeepsOk (inp : Bytes) {α} [Lined α] (m : PM α) : Prop := Keeps inp m (Lined.ok inp)

section rules
variable {inp : Bytes}

theorem J_framed : Framed (J inp) := fun _ _ hi hp h => ⟨hi.trans h.1, hp ▸ h.2⟩

theorem Keeps.bind {α β} {m : PM α} {f : α → PM β} {P : α → Prop} {R : β → Prop}
    (hm : Keeps inp m P) (hf : ∀ a, P a → Keeps inp (f a) R) : Keeps inp (m >>= f) R := Ret.bind hm hf
theorem Keeps.bindOk {α β} [Lined α] {m : PM α} {f : α → PM β} {R : β → Prop} (hm : KeepsOk inp m)
    (hf : ∀ a, Lined.ok inp a → Keeps inp (f a) R) : Keeps inp (m >>= f) R := Ret.bind hm hf
theorem Keeps.bindFrame {α β} {m : PM α} [Frame m] {f : α → PM β} {R : β → Prop} (hf : ∀ a, Keeps inp (f a) R) :
    Keeps inp (m >>= f) R := Ret.bindFrame J_framed hf
theorem Keeps.pure {α} {Q : α → Prop} {a : α} (h : Q a) : Keeps inp (Pure.pure a : PM α) Q := Ret.pure h
theorem Keeps.ite {α} {c : Prop} {d : Decidable c} {m1 m2 : PM α} {Q : α → Prop}
    (h1 : Keeps inp m1 Q) (h2 : Keeps inp m2 Q) : Keeps inp (@_root_.ite _ c d m1 m2) Q :=
  Ret.ite (fun _ => h1) (fun _ => h2)
theorem Keeps.post {α} {m : PM α} {Q Q' : α → Prop} (h : Keeps inp m Q) (hq : ∀ a, Q a → Q' a) : Keeps inp m Q' :=
  Ret.post h hq
theorem Keeps.fails {α} {m : PM α} [Fails m] {Q : α → Prop} : Keeps inp m Q := Ret.fails
theorem Keeps.frame {α} [Lined α] {m : PM α} [Frame m] (h : ∀ a : α, Lined.ok inp a := by simp) : KeepsOk inp m :=
  Ret.frame J_framed h

theorem Keeps.outOfFuel {α} {Q : α → Prop} : Keeps inp (outOfFuel : PM α) Q := Keeps.fails
theorem Keeps.unsupported {α} {Q : α → Prop} (w : String) : Keeps inp (unsupported w : PM α) Q := Keeps.fails
theorem Keeps.crash {α} {Q : α → Prop} (w : String) : Keeps inp (crash w : PM α) Q := Keeps.fails
theorem Keeps.errorf {α} {Q : α → Prop} (ps : List MP) : Keeps inp (errorf ps : PM α) Q := Keeps.fails
theorem Keeps.unexpected {α} {Q : α → Prop} (tk : Item) (c x : String) : Keeps inp (unexpected tk c x : PM α) Q :=
  Keeps.fails
theorem Keeps.nextItem : Keeps inp nextItem (Lined.ok inp) := Keeps.frame
theorem Keeps.backup : Keeps inp backup (Lined.ok inp) := Keeps.frame
theorem Keeps.backup2 (t : Item) : Keeps inp (backup2 t) (Lined.ok inp) := Keeps.frame
theorem Keeps.nextNonSpace : Keeps inp nextNonSpace (Lined.ok inp) := Keeps.frame
theorem Keeps.peekNonSpace : Keeps inp peekNonSpace (Lined.ok inp) := Keeps.frame
theorem Keeps.expect (ty : Tok) (c e : String) : Keeps inp (expect ty c e) (Lined.ok inp) := Keeps.frame

theorem Keeps.lineNumber : Keeps inp lineNumber (Lined.ok inp) := fun s hs a s' e =>
  ⟨lineNumber_state s a s' e ▸ hs, hs.1 ▸ lineNumber_line e⟩

theorem Keeps.registerBlock (name : Bytes) (b : PStmt) (hb : Lined.ok inp b) :
    Keeps inp (registerBlock name b) (Lined.ok inp) := fun _ hs _ _ e =>
  have h := registerBlock_eq_ok e
  ⟨⟨h.1.trans hs.1, fun x hx => (h.2 x hx).elim (hs.2 x) fun e => e ▸ hb⟩, trivial⟩

end rules

variable (inp : Bytes) (cfg : Cfg)

structure ExprLines (n : Nat) : Prop where
  term : KeepsOk inp (term cfg n)
  chainLoop : ∀ acc, KeepsOk inp (chainLoop n acc)
  operandReset : ∀ node, Lined.ok inp node → KeepsOk inp (operandReset cfg n node)
  operand : ∀ ctx, KeepsOk inp (operand cfg n ctx)
  argsLoop : ∀ acc slot, Lined.ok inp acc → KeepsOk inp (parseArgumentsLoop cfg n acc slot)
  args : KeepsOk inp (parseArguments cfg n)
  unary : ∀ ctx, KeepsOk inp (unaryExpression cfg n ctx)
  mulLoop : ∀ ctx l e, Lined.ok inp l → KeepsOk inp (multiplicativeLoop cfg n ctx l e)
  mul : ∀ ctx, KeepsOk inp (multiplicativeExpression cfg n ctx)
  addLoop : ∀ ctx l e, Lined.ok inp l → KeepsOk inp (additiveLoop cfg n ctx l e)
  add : ∀ ctx, KeepsOk inp (additiveExpression cfg n ctx)
  relLoop : ∀ ctx l e, Lined.ok inp l → KeepsOk inp (numericComparativeLoop cfg n ctx l e)
  rel : ∀ ctx, KeepsOk inp (numericComparativeExpression cfg n ctx)
  eqLoop : ∀ ctx l e, Lined.ok inp l → KeepsOk inp (comparativeLoop cfg n ctx l e)
  eq : ∀ ctx, KeepsOk inp (comparativeExpression cfg n ctx)
  logLoop : ∀ ctx l e, Lined.ok inp l → KeepsOk inp (logicalLoop cfg n ctx l e)
  log : ∀ ctx, KeepsOk inp (logicalExpression cfg n ctx)
  pexpr : ∀ ctx, KeepsOk inp (parseExpression cfg n ctx)
  expr : ∀ ctx as, KeepsOk inp (expression cfg n ctx as)

theorem exprLines_step (n : Nat) (ih : ExprLines inp cfg n) : ExprLines inp cfg (n + 1) where
  term := by rw [term]; rwalk kok [ih.expr]
  chainLoop acc := by rw [chainLoop]; rwalk kok [ih.chainLoop]
  operandReset node0 h0 := by
    rw [operandReset]; rwalk kok [ih.chainLoop, ih.args, ih.operandReset, ih.pexpr, ih.expr]
  operand ctx := by rw [operand]; rwalk kok [ih.term, ih.operandReset]
  argsLoop acc slot hacc := by rw [parseArgumentsLoop]; rwalk kok [ih.pexpr, ih.argsLoop]
  args := by rw [parseArguments]; rwalk kok [ih.argsLoop]
  unary ctx := by rw [unaryExpression]; rwalk kok [ih.eq, ih.operand]
  mulLoop ctx l e hl := by rw [multiplicativeLoop]; rwalk kok [ih.unary, ih.mulLoop]
  mul ctx := by rw [multiplicativeExpression]; rwalk kok [ih.unary, ih.mulLoop]
  addLoop ctx l e hl := by rw [additiveLoop]; rwalk kok [ih.mul, ih.addLoop]
  add ctx := by rw [additiveExpression]; rwalk kok [ih.mul, ih.addLoop]
  relLoop ctx l e hl := by rw [numericComparativeLoop]; rwalk kok [ih.add, ih.relLoop]
  rel ctx := by rw [numericComparativeExpression]; rwalk kok [ih.add, ih.relLoop]
  eqLoop ctx l e hl := by rw [comparativeLoop]; rwalk kok [ih.rel, ih.eqLoop]
  eq ctx := by rw [comparativeExpression]; rwalk kok [ih.rel, ih.eqLoop]
  logLoop ctx l e hl := by rw [logicalLoop]; rwalk kok [ih.eq, ih.logLoop]
  log ctx := by rw [logicalExpression]; rwalk kok [ih.eq, ih.logLoop]
  pexpr ctx := by rw [parseExpression]; rwalk kok [ih.log, ih.pexpr]
  expr ctx as := by rw [expression]; rwalk kok [ih.pexpr]

theorem exprLines_all : ∀ n, ExprLines inp cfg n
  | 0 => by constructor <;> intros <;> exact Keeps.outOfFuel
  | n + 1 => exprLines_step inp cfg n (exprLines_all n)

theorem assignLeftLoop_lines (fuel : Nat) (ctx : String) : ∀ k left op ret, Lined.ok inp left → Lined.ok inp op →
    KeepsOk inp (assignLeftLoop cfg fuel ctx k left op ret)
  | 0, _, _, _, _, _ => Keeps.outOfFuel
  | k + 1, left, op, ret, hl, ho => by
    rw [assignLeftLoop]; rwalk kok [(exprLines_all inp cfg fuel).pexpr, assignLeftLoop_lines fuel ctx k]

theorem assignRightLoop_lines (fuel : Nat) : ∀ k right, Lined.ok inp right →
    KeepsOk inp (assignRightLoop cfg fuel k right)
  | 0, _, _ => Keeps.outOfFuel
  | k + 1, right, hr => by
    rw [assignRightLoop]; rwalk kok [(exprLines_all inp cfg fuel).pexpr, assignRightLoop_lines fuel k]

theorem assignmentOrExpression_lines (fuel : Nat) (ctx : String) :
    KeepsOk inp (assignmentOrExpression cfg fuel ctx) := by
  unfold assignmentOrExpression
  rwalk kok [(exprLines_all inp cfg fuel).pexpr, assignLeftLoop_lines inp cfg fuel ctx, assignRightLoop_lines inp cfg fuel]

theorem command_lines (fuel : Nat) (base : Option PExpr) (hb : Lined.ok inp base) :
    KeepsOk inp (command cfg fuel base) := by
  unfold command
  rwalk kok [(exprLines_all inp cfg fuel).expr, (exprLines_all inp cfg fuel).args]

theorem pipelineLoop_lines (fuel : Nat) : ∀ k cmds, Lined.ok inp cmds → KeepsOk inp (pipelineLoop cfg fuel k cmds)
  | 0, _, _ => Keeps.outOfFuel
  | k + 1, cmds, hc => by
    rw [pipelineLoop]; rwalk kok [command_lines inp cfg fuel, pipelineLoop_lines fuel k]

theorem pipeline_lines (fuel : Nat) (base : PExpr) (hb : Lined.ok inp base) : KeepsOk inp (pipeline cfg fuel base) := by
  unfold pipeline
  rwalk kok [command_lines inp cfg fuel, pipelineLoop_lines inp cfg fuel]

theorem blockParamsLoop_lines (fuel : Nat) (isDecl : Bool) (ctx : String) : ∀ k acc, Lined.ok inp acc →
    KeepsOk inp (blockParamsLoop cfg fuel isDecl ctx k acc)
  | 0, _, _ => Keeps.outOfFuel
  | k + 1, acc, ha => by
    rw [blockParamsLoop]; rwalk kok [(exprLines_all inp cfg fuel).pexpr, blockParamsLoop_lines fuel isDecl ctx k]

theorem blockParametersList_lines (fuel : Nat) (isDecl : Bool) (ctx : String) :
    KeepsOk inp (blockParametersList cfg fuel isDecl ctx) := by
  unfold blockParametersList
  rwalk kok [blockParamsLoop_lines inp cfg fuel isDecl ctx]

structure StmtLines (n : Nat) : Prop where
  itemListLoop : ∀ terms acc, Lined.ok inp acc → KeepsOk inp (itemListLoop cfg n terms acc)
  itemList : ∀ terms, KeepsOk inp (itemList cfg n terms)
  textOrAction : KeepsOk inp (textOrAction cfg n)
  action : KeepsOk inp (action cfg n)
  parseInclude : KeepsOk inp (parseInclude cfg n)
  parseBlock : KeepsOk inp (parseBlock cfg n)
  parseYield : KeepsOk inp (parseYield cfg n)
  parseControl : ∀ a ctx, KeepsOk inp (parseControl cfg n a ctx)
  parseTry : KeepsOk inp (parseTry cfg n)
  parseCatch : KeepsOk inp (parseCatch cfg n)

theorem stmtLines_step (n : Nat) (ih : StmtLines inp cfg n) : StmtLines inp cfg (n + 1) :=
  -- the closer rewrites every hypothesis at every leaf: a structure costs it nothing, a triple under binders does
  have e := exprLines_all inp cfg n
  { itemListLoop := fun terms acc hacc => by rw [itemListLoop]; rwalk kok [ih.textOrAction, ih.itemListLoop]
    itemList := fun terms => by rw [itemList]; rwalk kok [ih.itemListLoop]
    textOrAction := by rw [textOrAction]; rwalk kok [ih.action]
    action := by
      rw [action]
      rwalk kok [ih.parseInclude, ih.parseBlock, ih.parseYield, ih.parseControl, ih.parseTry, ih.parseCatch, e.expr,
        assignmentOrExpression_lines inp cfg n, pipeline_lines inp cfg n]
    parseInclude := by rw [parseInclude]; rwalk kok [e.expr]
    parseBlock := by
      rw [parseBlock]; rwalk kok [Keeps.registerBlock, blockParametersList_lines inp cfg n, e.expr, ih.itemList]
    parseYield := by rw [parseYield]; rwalk kok [blockParametersList_lines inp cfg n, e.expr, ih.itemList]
    parseControl := fun allowElseIf ctx => by
      rw [parseControl]; rwalk kok [assignmentOrExpression_lines inp cfg n, e.expr, ih.itemList, ih.parseControl]
    parseTry := by rw [parseTry]; rwalk kok [ih.itemList]
    parseCatch := by rw [parseCatch]; rwalk kok [e.term, ih.itemList] }

theorem stmtLines_all : ∀ n, StmtLines inp cfg n
  | 0 => by constructor <;> intros <;> exact Keeps.outOfFuel
  | n + 1 => stmtLines_step inp cfg n (stmtLines_all n)

theorem prologueLoop_lines : ∀ k skipped, Lined.ok inp skipped → KeepsOk inp (prologueLoop cfg k skipped)
  | 0, _, _ => Keeps.outOfFuel
  | k + 1, skipped, hs => by rw [prologueLoop]; rwalk kok [Keeps.frame, prologueLoop_lines k]

theorem bodyLoop_lines (fuel : Nat) : ∀ k acc, Lined.ok inp acc → KeepsOk inp (bodyLoop cfg fuel k acc)
  | 0, _, _ => Keeps.outOfFuel
  | k + 1, acc, ha => by rw [bodyLoop]; rwalk kok [(stmtLines_all inp cfg fuel).textOrAction, bodyLoop_lines fuel k]

theorem parseTemplate_lines (fuel : Nat) : KeepsOk inp (parseTemplate cfg fuel) := by
  unfold parseTemplate
  rwalk kok [prologueLoop_lines inp cfg, bodyLoop_lines inp cfg fuel]

theorem initial_J (input name : Bytes) (toks : List Item) : J input { input := input, name := name, toks := toks } :=
  ⟨rfl, fun b hb => by simp at hb⟩

end JetVerif.Parse
