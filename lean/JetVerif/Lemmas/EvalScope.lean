/-
  The scope bookkeeping of the evaluator never panics (C12, scope part).

  * `SWF rt`: the current scope chain is non-empty, every id in it is allocated, every frame has a
    non-nil variable map, and every chain captured by the content closure is non-empty and allocated.
  * `Scoped m`: from an `SWF` runtime, on EVERY outcome of `m` the runtime is `SWF` again, frames
    were only appended, and the resulting chain ends in the chain `m` started from (on success it
    IS that chain); a `crash` outcome never carries one of the messages of the scope primitives.

  `Scoped` is a `WalkAll` (Lemmas/EvalWalk.lean), which settles the plumbing; proved here are the
  primitives and scoping combinators, the content closure, `try`, and the let-scope of a statement list.
-/
import JetVerif.Lemmas.EvalWalk

namespace JetVerif.Eval

def ClosureOK (n : Nat) : Closure → Prop
  | .mk _ scope outer => scope ≠ [] ∧ (∀ id ∈ scope, id < n) ∧
      (match outer with
       | none => True
       | some c => ClosureOK n c)

theorem ClosureOK.mono {n m : Nat} (h : n ≤ m) : ∀ c, ClosureOK n c → ClosureOK m c
  | .mk _ sc none, hc => by
    unfold ClosureOK at hc ⊢
    exact ⟨hc.1, fun id hid => Nat.lt_of_lt_of_le (hc.2.1 id hid) h, trivial⟩
  | .mk _ sc (some c), hc => by
    unfold ClosureOK at hc ⊢
    exact ⟨hc.1, fun id hid => Nat.lt_of_lt_of_le (hc.2.1 id hid) h, ClosureOK.mono h c hc.2.2⟩

theorem ClosureOK.mk_iff (n : Nat) (body : List Stmt) (sc : List Nat) (outer : Option Closure) :
    ClosureOK n (.mk body sc outer) ↔
      sc ≠ [] ∧ (∀ id ∈ sc, id < n) ∧ (∀ c, outer = some c → ClosureOK n c) := by
  cases outer <;> simp [ClosureOK]

structure SWF (rt : RT) : Prop where
  nonempty : rt.scope ≠ []
  alloc    : ∀ id ∈ rt.scope, id < rt.frames.length
  maps     : ∀ f ∈ rt.frames, f.vars.isSome = true
  content  : ∀ c, rt.content = some c → ClosureOK rt.frames.length c

structure Kept (a b : RT) : Prop where
  swf : SWF b
  len : a.frames.length ≤ b.frames.length
  suffix : ∃ xs, b.scope = xs ++ a.scope

def SPost {α} (rt : RT) : Res α → Prop
  | .ok _ rt' => Kept rt rt' ∧ rt'.scope = rt.scope
  | .err _ rt' => Kept rt rt'
  | .crash s rt' => ¬ ScopeMsg s ∧ Kept rt rt'
  | .fuel => True
  | .unsupported _ => True

structure Scoped {α} (m : M α) : Prop where
  post : ∀ rt, SWF rt → SPost rt (m rt)

theorem Kept.refl {a : RT} (h : SWF a) : Kept a a := ⟨h, Nat.le_refl _, ⟨[], rfl⟩⟩

theorem Kept.trans {a b c : RT} (h1 : Kept a b) (h2 : Kept b c) : Kept a c := by
  obtain ⟨xs, e1⟩ := h1.suffix
  obtain ⟨ys, e2⟩ := h2.suffix
  exact ⟨h2.swf, Nat.le_trans h1.len h2.len, ⟨ys ++ xs, by rw [e2, e1, List.append_assoc]⟩⟩

theorem SWF.subchain {b b' : RT} (hb : SWF b) (hf : b'.frames = b.frames) (hc : b'.content = b.content)
    (hne : b'.scope ≠ []) (hsub : ∀ id ∈ b'.scope, id ∈ b.scope) : SWF b' := by
  refine ⟨hne, ?_, ?_, ?_⟩
  · intro id hid; rw [hf]; exact hb.alloc id (hsub id hid)
  · intro f hfm; rw [hf] at hfm; exact hb.maps f hfm
  · intro c hcc; rw [hc] at hcc; rw [hf]; exact hb.content c hcc

theorem SWF.congr {a b : RT} (h : SWF a) (hf : b.frames = a.frames) (hs : b.scope = a.scope)
    (hc : b.content = a.content) : SWF b :=
  h.subchain hf hc (by rw [hs]; exact h.nonempty) fun _ hid => by rw [hs] at hid; exact hid

theorem Kept.congr_right {a b b' : RT} (h : Kept a b) (hf : b'.frames = b.frames)
    (hs : b'.scope = b.scope) (hc : b'.content = b.content) : Kept a b' :=
  ⟨h.swf.congr hf hs hc, by rw [hf]; exact h.len, by rw [hs]; exact h.suffix⟩

/-- putting a saved chain and a saved content back (try, isset, the content closure, ...):
    frames were only appended, so what was saved is still allocated -/
theorem kept_restore {a b b' : RT} (ha : SWF a) (hb : SWF b) (hl : a.frames.length ≤ b.frames.length)
    (hf : b'.frames = b.frames) (hs : b'.scope = a.scope) (hc : b'.content = a.content) : Kept a b' := by
  refine ⟨⟨by rw [hs]; exact ha.nonempty, ?_, ?_, ?_⟩, by rw [hf]; exact hl, ⟨[], by rw [hs]; rfl⟩⟩
  · intro id hid; rw [hs] at hid; rw [hf]; exact Nat.lt_of_lt_of_le (ha.alloc id hid) hl
  · intro f hfm; rw [hf] at hfm; exact hb.maps f hfm
  · intro c hcc; rw [hc] at hcc; rw [hf]; exact ClosureOK.mono hl c (ha.content c hcc)

/-- an outcome of something run from `b` is an outcome of what started at `a`, if `b` has `a`'s chain -/
theorem Kept.then {α} {a b : RT} {r : Res α} (k : Kept a b) (hs : b.scope = a.scope) (h : SPost b r) : SPost a r :=
  Res.Sat.mono h (fun _ _ h2 => ⟨k.trans h2.1, h2.2.trans hs⟩) (fun _ h2 => k.trans h2) (fun _ _ h2 => ⟨h2.1, k.trans h2.2⟩)

theorem Scoped.bind {α β} {m : M α} {f : α → M β} (hm : Scoped m) (hf : ∀ a, Scoped (f a)) :
    Scoped (m >>= f) :=
  ⟨fun rt hwf => sat_bind.mpr <| Res.Sat.mono (hm.post rt hwf)
    (fun a rt1 h1 => h1.1.then h1.2 ((hf a).post rt1 h1.1.swf)) (fun _ h1 => h1) (fun _ _ h1 => h1)⟩

theorem scoped_throwErr {α} (e : Err) : Scoped (throwErr e : M α) := ⟨fun _ h => Kept.refl h⟩
theorem scoped_outOfFuel {α} : Scoped (outOfFuel : M α) := ⟨fun _ _ => trivial⟩

theorem scoped_of_same {α} {m : M α} (h : KeepsScopes m) : Scoped m :=
  have kept : ∀ {rt rt'}, SWF rt → SameScopes rt rt' → Kept rt rt' := fun hw hs =>
    (Kept.refl hw).congr_right hs.1 hs.2.1 hs.2.2
  ⟨fun rt hw => Res.Sat.mono (h rt) (fun _ _ hs => ⟨kept hw hs, hs.2.1⟩) (fun _ => kept hw) (fun _ _ h => h.elim)⟩

theorem scoped_modify_log (f : List LogE → List LogE) : Scoped (modifyRT fun rt => { rt with log := f rt.log }) :=
  scoped_of_same fun _ => ⟨rfl, rfl, rfl⟩

theorem scoped_modify_ctx (v : Val) : Scoped (modifyRT fun rt => { rt with ctx := v }) :=
  scoped_of_same fun _ => ⟨rfl, rfl, rfl⟩

theorem scoped_ctxSwap (v : Val) : Scoped (ctxSwap v) :=
  scoped_of_same fun _ => ⟨rfl, rfl, rfl⟩

/-! ### scope primitives: from a well-formed runtime none of their crash outcomes is reachable -/

theorem spost_setFrame {α} {rt : RT} (h : SWF rt) (a : α) (id : Nat) (f : Frame) (hf : f.vars.isSome = true) :
    SPost rt (Res.ok a (setFrame rt id f)) := by
  refine ⟨⟨⟨h.nonempty, ?_, ?_, ?_⟩, ?_, ⟨[], rfl⟩⟩, rfl⟩
  · intro i hi
    simp only [setFrame, List.length_set]
    exact h.alloc i hi
  · intro g hg
    simp only [setFrame] at hg
    rcases List.mem_or_eq_of_mem_set hg with hg | rfl
    · exact h.maps g hg
    · exact hf
  · intro c hc
    simp only [setFrame, List.length_set]
    exact h.content c hc
  · simp [setFrame]

theorem SWF.cur {rt : RT} (h : SWF rt) :
    ∃ cur tl f, rt.scope = cur :: tl ∧ frameAt rt cur = some f ∧ f ∈ rt.frames := by
  obtain ⟨cur, tl, hs⟩ := List.exists_cons_of_ne_nil h.nonempty
  obtain ⟨f, hf, hm⟩ := frameAt_of_lt rt cur (h.alloc cur (hs ▸ List.mem_cons_self))
  exact ⟨cur, tl, f, hs, hf, hm⟩

theorem scoped_letVar (n : Bytes) (v : Val) : Scoped (letVar n v) := by
  refine ⟨fun rt h => ?_⟩
  obtain ⟨cur, tl, f, hs, hf, hm⟩ := h.cur
  obtain ⟨vs, hvs⟩ := Option.isSome_iff_exists.mp (h.maps f hm)
  unfold letVar
  rw [hs]; simp only; rw [hf]; simp only; rw [hvs]
  exact spost_setFrame h _ _ _ rfl

theorem scoped_setBlocks (b : List (Bytes × BlockN)) : Scoped (setBlocks b) := by
  refine ⟨fun rt h => ?_⟩
  obtain ⟨cur, tl, f, hs, hf, hm⟩ := h.cur
  unfold setBlocks
  rw [hs]; simp only; rw [hf]
  exact spost_setFrame h _ _ _ (h.maps f hm)

theorem scoped_setValue (n : Bytes) (v : Val) : Scoped (setValue n v) := by
  refine ⟨fun rt h => ?_⟩
  rcases setValue_cases n v rt with ⟨_, e⟩ | ⟨id, w, f, vs, _, _, _, e⟩ <;> rw [e]
  · exact ⟨Kept.refl h, rfl⟩
  · exact spost_setFrame h _ _ _ rfl

theorem scoped_letGlobal (n : Bytes) (v : Val) : Scoped (letGlobal n v) := by
  refine ⟨fun rt h => ?_⟩
  obtain ⟨id, ht, hid⟩ := letGlobalTarget_mem rt rt.scope h.nonempty
  obtain ⟨f, hf, hm⟩ := frameAt_of_lt rt id (h.alloc id hid)
  obtain ⟨vs, hvs⟩ := Option.isSome_iff_exists.mp (h.maps f hm)
  unfold letGlobal
  rw [ht]; simp only; rw [hf]; simp only; rw [hvs]
  exact spost_setFrame h _ _ _ rfl

/-- `newScope_sat` (Lemmas/EvalEqns.lean) holds of every runtime, so it can neither exclude the
    panic nor say which frame is pushed; from `SWF` both are known -/
theorem newScope_ok {rt : RT} (h : SWF rt) :
    ∃ rt1, newScope rt = .ok () rt1 ∧ SWF rt1 ∧ rt1.scope = rt.frames.length :: rt.scope ∧
      rt.frames.length ≤ rt1.frames.length := by
  obtain ⟨cur, tl, f, hs, hf, hm⟩ := h.cur
  refine ⟨{ rt with frames := rt.frames ++ [{ vars := some [], blocks := f.blocks }],
                    scope := rt.frames.length :: rt.scope }, ?_, ⟨?_, ?_, ?_, ?_⟩, rfl, ?_⟩
  · unfold newScope
    rw [hs]; simp only; rw [hf]
  · simp
  · intro id hid
    simp only [List.length_append, List.length_cons, List.length_nil]
    rcases List.mem_cons.mp hid with rfl | hid
    · omega
    · have := h.alloc id hid; omega
  · exact List.forall_mem_append.mpr ⟨h.maps, List.forall_mem_singleton.mpr rfl⟩
  · intro c hc
    exact ClosureOK.mono (by simp) c (h.content c hc)
  · simp

/-- `defer st.releaseScope()` running on a chain that is at least one level above the chain `a`
    started from: the result still ends in `a`'s chain -/
theorem kept_popScope {a b : RT} {id : Nat} (ha : a.scope ≠ []) (hb : SWF b)
    (hl : a.frames.length ≤ b.frames.length) (hs : ∃ xs, b.scope = xs ++ id :: a.scope) :
    Kept a (popScope b) := by
  obtain ⟨hsc, hf, _, hc, _⟩ := popScope_fields b
  obtain ⟨xs, hxs⟩ := hs
  have hsuf : ∃ ys, (popScope b).scope = ys ++ a.scope := by
    rw [hsc, hxs]
    cases xs with
    | nil => exact ⟨[], rfl⟩
    | cons x xs' => exact ⟨xs' ++ [id], by simp⟩
  refine ⟨hb.subchain hf hc ?_ ?_, by rw [hf]; exact hl, hsuf⟩
  · obtain ⟨ys, hy⟩ := hsuf
    rw [hy]
    intro hnil
    exact ha (List.append_eq_nil_iff.mp hnil).2
  · intro i hi
    rw [hsc] at hi
    exact List.mem_of_mem_tail hi

theorem scoped_withNewScopeND {α} {body : M α} (hb : Scoped body) : Scoped (withNewScopeND body) := by
  refine ⟨fun rt h => ?_⟩
  unfold withNewScopeND
  obtain ⟨rt1, hn, h1, hs1, hl1⟩ := newScope_ok h
  rw [bind_ok hn]
  have k1 : Kept rt rt1 := ⟨h1, hl1, ⟨[rt.frames.length], by rw [hs1]; rfl⟩⟩
  refine sat_bind.mpr <| Res.Sat.mono (hb.post rt1 h1) (fun a rt2 hb1 => ?_) (fun _ h2 => k1.trans h2)
    (fun _ _ h2 => ⟨h2.1, k1.trans h2.2⟩)
  have hs2 : rt2.scope = rt.frames.length :: rt.scope := hb1.2.trans hs1
  have hr : releaseScope rt2 = .ok () { rt2 with scope := rt.scope } := by
    unfold releaseScope; rw [hs2]
  rw [bind_ok hr]
  refine ⟨⟨?_, Nat.le_trans hl1 hb1.1.len, ⟨[], rfl⟩⟩, rfl⟩
  exact hb1.1.swf.subchain rfl rfl h.nonempty
    (fun id hid => by rw [hs2]; exact List.mem_cons_of_mem _ hid)

/-- `defer st.releaseScope()` after a `newScope`: whatever the body does, the chain the deferred
    function sees is the pushed scope or deeper, so popping one level is harmless -/
theorem scoped_withNewScopeD {α} {body : M α} (hb : Scoped body) : Scoped (withNewScopeD body) := by
  refine ⟨fun rt h => ?_⟩
  unfold withNewScopeD
  obtain ⟨rt1, hn, h1, hs1, hl1⟩ := newScope_ok h
  rw [bind_ok hn]
  have pop : ∀ {rt2}, Kept rt1 rt2 → Kept rt (popScope rt2) := fun k =>
    have ⟨xs, hx⟩ := k.suffix
    kept_popScope h.nonempty k.swf (Nat.le_trans hl1 k.len) ⟨xs, by rw [hx, hs1]⟩
  refine sat_deferred.mpr <| Res.Sat.mono (hb.post rt1 h1) (fun _ rt2 hb1 => ⟨pop hb1.1, ?_⟩) (fun _ => pop)
    (fun _ _ h2 => ⟨h2.1, pop h2.2⟩)
  rw [(popScope_fields rt2).1, hb1.2, hs1]; rfl

theorem scoped_withCtxND {α} (v : Val) {body : M α} (hb : Scoped body) : Scoped (withCtxND v body) :=
  ⟨fun rt h =>
    have k : Kept rt { rt with ctx := v } := (Kept.refl h).congr_right rfl rfl rfl
    sat_withCtxND.mpr <| Res.Sat.mono (k.then rfl (hb.post _ k.swf))
      (fun _ _ h2 => ⟨h2.1.congr_right rfl rfl rfl, h2.2⟩) (fun _ h2 => h2) (fun _ _ h2 => h2)⟩

theorem scoped_deferred_same {α} (fin : RT → RT)
    (hfin : ∀ rt, (fin rt).frames = rt.frames ∧ (fin rt).scope = rt.scope ∧ (fin rt).content = rt.content)
    {m : M α} (hm : Scoped m) : Scoped (deferred fin m) :=
  have fin' : ∀ {a b}, Kept a b → Kept a (fin b) := fun k => k.congr_right (hfin _).1 (hfin _).2.1 (hfin _).2.2
  ⟨fun rt h => sat_deferred.mpr <| Res.Sat.mono (hm.post rt h) (fun _ _ h1 => ⟨fin' h1.1, (hfin _).2.1.trans h1.2⟩)
    (fun _ => fin') (fun _ _ h1 => ⟨h1.1, fin' h1.2⟩)⟩

theorem scoped_withCtxD {α} {e : M Val} {body : M α} (he : Scoped e) (hb : Scoped body) :
    Scoped (withCtxD e body) :=
  ⟨fun rt h => (scoped_deferred_same (fun rt' => { rt' with ctx := rt.ctx }) (fun _ => ⟨rfl, rfl, rfl⟩)
    (he.bind fun nv => (scoped_modify_ctx nv).bind fun _ => hb)).post rt h⟩

theorem scoped_withWriterD {α} (w' : Wr) {body : M α} (hb : Scoped body) : Scoped (withWriterD w' body) :=
  ⟨fun rt h =>
    have k : Kept rt { rt with writer := w' } := (Kept.refl h).congr_right rfl rfl rfl
    k.then rfl ((scoped_deferred_same (fun rt' => { rt' with writer := rt.writer })
      (fun _ => ⟨rfl, rfl, rfl⟩) hb).post _ k.swf)⟩

/-- `st.content = c; body; st.content = mycontent` for a closure whose chains are allocated -/
theorem spost_withContentND {α} (c : Option Closure) {body : M α} (hb : Scoped body) (rt : RT) (h : SWF rt)
    (hc : ∀ c', c = some c' → ClosureOK rt.frames.length c') : SPost rt (withContentND c body rt) :=
  have k : Kept rt { rt with content := c } := ⟨⟨h.nonempty, h.alloc, h.maps, hc⟩, Nat.le_refl _, ⟨[], rfl⟩⟩
  sat_withContentND.mpr <| Res.Sat.mono (k.then rfl (hb.post _ k.swf))
    (fun _ _ h2 => ⟨kept_restore h h2.1.swf h2.1.len rfl h2.2 rfl, h2.2⟩) (fun _ h2 => h2) (fun _ _ h2 => h2)

/-- running a content closure: its chain was allocated when it was captured and frames are never
    removed; the deferred function puts the caller's chain and content back on every outcome -/
theorem spost_withScopeContentD {α} (sc : List Nat) (ct : Option Closure) {body : M α} (hb : Scoped body)
    (rt : RT) (h : SWF rt) (hsc : sc ≠ []) (hal : ∀ id ∈ sc, id < rt.frames.length)
    (hct : ∀ c, ct = some c → ClosureOK rt.frames.length c) :
    SPost rt (withScopeContentD sc ct body rt) :=
  have back : ∀ {rt2}, Kept { rt with scope := sc, content := ct } rt2 →
      Kept rt { rt2 with scope := rt.scope, content := rt.content } := fun k => kept_restore h k.swf k.len rfl rfl rfl
  sat_withScopeContentD.mpr <| Res.Sat.mono (hb.post { rt with scope := sc, content := ct } ⟨hsc, hal, h.maps, hct⟩)
    (fun _ _ h2 => ⟨back h2.1, rfl⟩) (fun _ => back) (fun _ _ h2 => ⟨h2.1, back h2.2⟩)

/-- isSet's catch-all recover puts the saved chain, context and content back -/
theorem scoped_recoverFalse {m : M Bool} (hm : Scoped m) : Scoped (recoverFalse m) :=
  ⟨fun rt h => sat_recoverFalse.mpr <| Res.Sat.mono (hm.post rt h) (fun _ _ h1 => h1)
    (fun _ h1 => ⟨kept_restore h h1.swf h1.len rfl rfl rfl, rfl⟩)
    (fun _ _ h1 => ⟨kept_restore h h1.2.swf h1.2.len rfl rfl rfl, rfl⟩)⟩

/-! ### pure helpers: their crash messages are not the scope primitives' -/

def PClean {α} (p : P α) : Prop := ∀ s, p = .error (.crash s) → ¬ ScopeMsg s

theorem pc_ok {α} (a : α) : PClean (.ok a : P α) := pcr_ok a
theorem pc_throwErr {α} (e : Err) : PClean (throwErr e : P α) := pcr_err e

theorem scoped_liftP {α} (p : P α) (hp : PClean p) : Scoped (liftP p) :=
  ⟨fun _ h => sat_liftP (fun _ _ => ⟨Kept.refl h, rfl⟩) (Kept.refl h) (fun s e => ⟨hp s e, Kept.refl h⟩)⟩

structure RecScoped (r : Rec) : Prop where
  evalExpr : ∀ env e, Scoped (r.evalExpr env e)
  execList : ∀ env l, Scoped (r.execList env l)
  isSetE : ∀ env e, Scoped (r.isSetE env e)

theorem recScoped_bottom : RecScoped Rec.bottom :=
  ⟨fun _ _ => scoped_outOfFuel, fun _ _ => scoped_outOfFuel, fun _ _ => scoped_outOfFuel⟩

/-- `sites`: none of the crash sites of the evaluator proper carries a scope primitive's message.
    (`PClean` is `PCr` at `¬ ScopeMsg ·`: the helpers are covered by Lemmas/EvalHelpers.lean; the one
    helper that shares the message "unreachable" is shown there not to reach it.) -/
theorem Scoped.walk : WalkAll (fun s => ¬ ScopeMsg s) @Scoped where
  bind := Scoped.bind
  liftP := scoped_liftP
  reads h := scoped_of_same (keepsScopes_of_reads h)
  emits h := scoped_of_same h.keepsScopes
  modifyLog := scoped_modify_log
  letVar := scoped_letVar
  setValue := scoped_setValue
  letGlobal := scoped_letGlobal
  withNewScopeND := scoped_withNewScopeND
  withNewScopeD := scoped_withNewScopeD
  withCtxND := scoped_withCtxND
  withCtxD := scoped_withCtxD
  discard := scoped_withWriterD _
  recoverFalse := scoped_recoverFalse
  setBlocks := scoped_setBlocks
  sites := by simp [siteMsgs, ScopeMsg]

variable {r : Rec}

theorem RecScoped.ok (hr : RecScoped r) : RecOk @Scoped r := ⟨hr.evalExpr, hr.execList, hr.isSetE⟩

/-- `yield content`: the closure was captured from a well-formed runtime -/
theorem spost_invokeContent (hr : RecScoped r) (env : Env) (c : Closure) (ctxE : Option Expr) (rt : RT)
    (h : SWF rt) (hc : ClosureOK rt.frames.length c) : SPost rt (invokeContent r env c ctxE rt) := by
  cases c with
  | mk body sc outer =>
    obtain ⟨h1, h2, h3⟩ := (ClosureOK.mk_iff _ _ _ _).mp hc
    exact spost_withScopeContentD sc outer
      (yieldRun_ok Scoped.walk.toWalk body ctxE (fun e _ => hr.evalExpr env e) (hr.execList env body)) rt h h1 h2 h3

/-- `executeYieldBlock` captures the current chain in the content closure: it is allocated now
    and frames are never removed -/
theorem scoped_yieldBody (hr : RecScoped r) (env : Env) (block : BlockN) (ctxE : Option Expr)
    (content : Option (List Stmt)) : Scoped (yieldBody r env block ctxE content) := by
  have run := yieldRun_ok Scoped.walk.toWalk block.body ctxE (fun e _ => hr.evalExpr env e) (hr.execList env _)
  refine ⟨fun rt h => ?_⟩
  unfold yieldBody
  rw [getRT_bind]
  cases content with
  | none => exact spost_withContentND _ run rt h h.content
  | some body =>
    refine spost_withContentND _ run rt h ?_
    intro c' hc'
    cases hc'
    exact (ClosureOK.mk_iff _ _ _ _).mpr ⟨h.nonempty, h.alloc, h.content⟩

theorem scoped_execYield (hr : RecScoped r) (env : Env) (loc : Loc) (name : Bytes) (params : Option (List Param))
    (ctxE : Option Expr) (content : Option (List Stmt)) (isContent : Bool) :
    Scoped (execYield r env loc name params ctxE content isContent) := by
  have W := Scoped.walk
  unfold execYield
  split
  · refine ⟨fun rt h => ?_⟩
    rw [getRT_bind]
    cases hc : rt.content with
    | none => exact ⟨Kept.refl h, rfl⟩
    | some c => exact spost_invokeContent hr env c ctxE rt h (h.content c hc)
  · refine W.bind (W.getBlock name) fun o => ?_
    split
    · exact W.errAt _ _
    · split
      · exact W.site _ (by simp [siteMsgs])
      · exact walk_executeYieldBlock W hr.ok env (scoped_yieldBody hr env) _ _ _ _ _ _

/-- `executeTry`: the recover handler puts the saved chain, context and content back before the
    catch clause runs -/
theorem scoped_executeTry (hr : RecScoped r) (env : Env) (body : List Stmt) (hasCatch : Bool)
    (cv : Option Bytes) (cb : Option (List Stmt)) : Scoped (executeTry r env body hasCatch cv cb) := by
  refine ⟨fun rt h => sat_executeTry ?_⟩
  have handler : ∀ {rt2}, Kept rt rt2 → ∀ errVal,
      SPost rt (tryCatch r env hasCatch cv cb errVal (tryReset rt rt2)) := fun k errVal =>
    have k0 : Kept rt (tryReset rt _) := kept_restore h k.swf k.len rfl rfl rfl
    k0.then rfl ((walk_tryCatch Scoped.walk hr.ok env hasCatch cv cb errVal).post _ k0.swf)
  have ks : Kept rt (tryStart rt) := (Kept.refl h).congr_right rfl rfl rfl
  refine Res.Sat.mono (ks.then rfl ((hr.execList env body).post _ ks.swf)) (fun v rt2 hb => ?_)
    (fun _ => handler) (fun _ _ hb => handler hb.2)
  obtain ⟨a1, a2, a3⟩ := appendTo_same { rt2 with writer := rt.writer } rt.writer (rt2.sink (rt.nbufs + 1)).reverse
  exact ⟨hb.1.congr_right a1 a2 a3, a2.trans hb.2⟩

/-! ### statement lists: the let-scope a list opens is released by a deferred function -/

/-- how a failing statement leaves the chain: it ends in the chain the statement started from, and
    if the statement opened the list's let-scope (`o`) it is strictly longer -/
structure FailRel (o : Bool) (rt rt' : RT) : Prop where
  swf : SWF rt'
  len : rt.frames.length ≤ rt'.frames.length
  suffix : ∃ xs, rt'.scope = xs ++ rt.scope ∧ (o = true → xs ≠ [])

/-- where a list stands: `a` is the runtime it started from, `b` says whether it has opened its let-scope -/
structure InList (a : RT) (b : Bool) (rt : RT) : Prop where
  base : a.scope ≠ []
  swf : SWF rt
  len : a.frames.length ≤ rt.frames.length
  opened : b = true → ∃ id, rt.scope = id :: a.scope
  closed : b = false → rt.scope = a.scope

namespace InList
variable {a rt rt1 : RT} {b : Bool}

/-- after something that succeeded and is `Scoped` -/
theorem keep (hi : InList a b rt) (k : Kept rt rt1) (hs : rt1.scope = rt.scope) : InList a b rt1 :=
  ⟨hi.base, k.swf, Nat.le_trans hi.len k.len, fun hb => have ⟨id, e⟩ := hi.opened hb; ⟨id, hs.trans e⟩,
   fun hb => hs.trans (hi.closed hb)⟩

/-- the deferred `releaseScope` of the list, run where something `Scoped` has left the runtime (a statement that
    failed; at the end of the list, nothing): it was registered if the let-scope is open, and the chain it then
    sees is at least one level above the chain the list started from -/
theorem fail (hi : InList a b rt) (k : Kept rt rt1) : Kept a (if b = true then popScope rt1 else rt1) := by
  obtain ⟨xs, hx⟩ := k.suffix
  have hl := Nat.le_trans hi.len k.len
  cases b with
  | false => exact ⟨k.swf, hl, ⟨xs, hx.trans (by rw [hi.closed rfl])⟩⟩
  | true =>
    obtain ⟨id, hid⟩ := hi.opened rfl
    exact kept_popScope hi.base k.swf hl ⟨xs, by rw [hx, hid]⟩

/-- a `:=` opens the let-scope -/
theorem push (hi : InList a false rt) : ∃ rt1, newScope rt = .ok () rt1 ∧ InList a true rt1 :=
  have ⟨rt1, hn, h1, hs1, hl1⟩ := newScope_ok hi.swf
  ⟨rt1, hn, hi.base, h1, Nat.le_trans hi.len hl1, fun _ => ⟨_, by rw [hs1, hi.closed rfl]⟩, nofun⟩

end InList

/-- what the statement loop demands: `InList` again after a success, and after a failure a runtime that is `Kept`
    once the deferred `releaseScope` - registered iff `pop` - has run -/
def SPostL {α} (a : RT) (flag : α → Bool) (pop : Bool) : Res α → Prop :=
  Res.Sat (fun x rt' => InList a (flag x) rt') (fun rt' => Kept a (if pop = true then popScope rt' else rt'))
    (fun m rt' => ¬ ScopeMsg m ∧ Kept a (if pop = true then popScope rt' else rt'))

theorem spost_execStmt (hr : RecScoped r) (env : Env) {a : RT} (b : Bool) (s : Stmt) (rt : RT) (hi : InList a b rt) :
    SPostL a (·.2.2) (b || stmtOpensLet s) (execStmt r env b s rt) := by
  obtain ⟨α, m, k, hm, e⟩ := execStmt_shape Scoped.walk hr.ok env (scoped_yieldBody hr env)
    (scoped_execYield hr env) (scoped_executeTry hr env) b s
  have run : ∀ {b' rt'}, InList a b' rt' →
      SPostL a (·.2.2) b' ((m >>= fun x => pure ((k x).1, (k x).2, b')) rt') := fun hi' =>
    sat_bind.mpr <| Res.Sat.mono (hm.post _ hi'.swf) (fun _ _ h1 => hi'.keep h1.1 h1.2) (fun _ h1 => hi'.fail h1)
      (fun _ _ h1 => ⟨h1.1, hi'.fail h1.2⟩)
  rw [e]
  cases b with
  | true => exact run hi
  | false =>
    cases stmtOpensLet s with
    | false => exact run hi
    | true =>
      obtain ⟨rt1, hn, hi1⟩ := hi.push
      show SPostL a _ true ((newScope >>= fun _ => _) rt)
      rw [bind_ok hn]
      exact run hi1

theorem spost_execListGo (hr : RecScoped r) (env : Env) {a : RT} :
    ∀ (l : List Stmt) (rv : Val) (b : Bool) (rt : RT), InList a b rt →
      SPostL a (·.2) false (execListGo r env l rv b rt)
  | [], _, _, _, hi => hi
  | s :: rest, _, b, rt, hi =>
    -- a failure is handed on as it is: what `sat_execListGo_cons` asks of it (pop if `b || stmtOpensLet s`) is what
    -- `spost_execStmt` says of it, the same `if` on both sides
    sat_execListGo_cons.mpr <| Res.Sat.mono (spost_execStmt hr env b s rt hi)
      (fun _ rt1 hi1 => spost_execListGo hr env rest _ _ rt1 hi1) (fun _ h1 => h1) (fun _ _ h1 => h1)

theorem scoped_execListF (hr : RecScoped r) (env : Env) (l : List Stmt) : Scoped (execListF r env l) := by
  refine ⟨fun rt h => sat_execListF.mpr ?_⟩
  refine Res.Sat.mono (spost_execListGo hr env l .invalid false rt ⟨h.nonempty, h, Nat.le_refl _, nofun, fun _ => rfl⟩)
    (fun x rt1 hi => ⟨hi.fail (Kept.refl hi.swf), ?_⟩) (fun _ h1 => h1) (fun _ _ h1 => h1)
  cases hx : x.2 with
  | false => exact hi.closed hx
  | true =>
    obtain ⟨id, hid⟩ := hi.opened hx
    show (popScope rt1).scope = rt.scope
    rw [(popScope_fields rt1).1, hid]; rfl

theorem recScoped_step (hr : RecScoped r) : RecScoped (stepRec r) :=
  ⟨fun env e => walk_evalExprF Scoped.walk hr.ok env e, fun env l => scoped_execListF hr env l,
   fun env e => walk_isSetF Scoped.walk hr.ok env e⟩

theorem recScoped_recAt : ∀ n, RecScoped (recAt n)
  | 0 => recScoped_bottom
  | n + 1 => recScoped_step (recScoped_recAt n)

end JetVerif.Eval
