/-
  Helper lemmas for Props/C03E.lean (also used by Lemmas/IfChain.lean and RangeChain.lean): exact
  results of the parser model and of the evaluator model on templates without actions (text and
  comments only), i.e. templates whose item list is a list of text items followed by the
  end-of-file item.

  * parser: `parseTemplate` returns exactly one `PStmt.text` per text item, in order, with the
    item's bytes (the prologue's skipped blank text nodes are put back in front);
  * evaluator: a list of `Stmt.text` statements appends one `.lit` chunk per statement to the
    current destination and changes nothing else;
  * `eraseTexts`: the `.text` case of the tree erasure (`stmtA` of `Driver/ExecSrc.lean`), restated.
-/
import JetVerif.Lemmas.ParseSafe
import JetVerif.Lemmas.EvalEqns

namespace JetVerif.TextOnly
open JetVerif JetVerif.Parse

/-- item `t` has been received and pushed back; `ts` are still to come -/
def peeked (b : PSt) (t : Item) (ts : List Item) : PSt := stT b ts t 1 t.pos

/-- what `peek` returns when the items not yet consumed (pushed-back one included) are `l` -/
def peekRes (b : PSt) : List Item → PRes Item
  | [] => .ok Item.zero (peeked b Item.zero [])
  | t :: ts => .ok t (peeked b t ts)

/-- `1 + strings.Count(input[:p], "\n")` -/
def lineAt (input : Bytes) (p : Int) : Nat := 1 + countNl (input.take p.toNat)

theorem peek_fresh (b : PSt) (l : List Item) (x : Item) (lp : Int) :
    peek (stT b l x 0 lp) = peekRes b l := by
  cases l with
  | nil => simp [peek, bind_apply, Parse.get, stT, nextItem, Parse.modify, peekRes, peeked, Item.zero]
  | cons t ts => exact peek_stT b t ts x lp

theorem peek_peeked (b : PSt) (t : Item) (ts : List Item) :
    peek (peeked b t ts) = peekRes b (t :: ts) := peek_stT_pushed b ts t t.pos

theorem next_peeked (b : PSt) (t : Item) (ts : List Item) :
    next (peeked b t ts) = .ok t (stT b ts t 0 t.pos) := next_stT_pushed b ts t t.pos

theorem nextNonSpace_peeked (b : PSt) (t : Item) (ts : List Item) (h : t.typ ≠ Tok.space) :
    nextNonSpace (peeked b t ts) = .ok t (stT b ts t 0 t.pos) := nextNonSpace_stT_pushed b ts t t.pos h

theorem lineNumber_stT (b : PSt) (ts : List Item) (x : Item) (pc : Nat) (lp : Int)
    (h0 : 0 ≤ lp) (h1 : lp ≤ b.input.length) :
    lineNumber (stT b ts x pc lp) = .ok (lineAt b.input lp) (stT b ts x pc lp) := by
  simp [lineNumber, Lex.slice, stT, h0, h1, lineAt]

theorem backup_stT (b : PSt) (ts : List Item) (x : Item) (lp : Int) :
    backup (stT b ts x 0 lp) = .ok () (stT b ts x 1 lp) := by
  simp [backup, Parse.modify, stT]

def textItem (x : Int × Bytes) : Item := { typ := Tok.text, pos := x.1, val := x.2 }

def eofItem (e : Int) (ev : Bytes) : Item := { typ := Tok.eof, pos := e, val := ev }

def itemsT (ts : List (Int × Bytes)) (e : Int) (ev : Bytes) : List Item :=
  ts.map textItem ++ [eofItem e ev]

/-- the node `textOrAction` builds for a text item: its line is the line of the item's position -/
def textNode (input : Bytes) (x : Int × Bytes) : PStmt := .text (lineAt input x.1) x.2

def InRange (input : Bytes) (p : Int) : Prop := 0 ≤ p ∧ p ≤ input.length

@[simp] theorem textItem_typ (x : Int × Bytes) : (textItem x).typ = Tok.text := rfl
@[simp] theorem textItem_pos (x : Int × Bytes) : (textItem x).pos = x.1 := rfl
@[simp] theorem textItem_val (x : Int × Bytes) : (textItem x).val = x.2 := rfl
@[simp] theorem stT_ext (b ts x pc lp) : (stT b ts x pc lp).ext = b.ext := rfl
@[simp] theorem stT_imports (b ts x pc lp) : (stT b ts x pc lp).imports = b.imports := rfl
@[simp] theorem stT_input (b ts x pc lp) : (stT b ts x pc lp).input = b.input := rfl

theorem textOrAction_text (cfg : Cfg) (fuel : Nat) (b : PSt) (x : Int × Bytes) (rest : List Item)
    (hx : InRange b.input x.1) :
    textOrAction cfg (fuel + 1) (peeked b (textItem x) rest) =
      .ok (textNode b.input x) (stT b rest (textItem x) 0 x.1) := by
  rw [textOrAction]
  have hsp : (textItem x).typ ≠ Tok.space := by simp [textItem]
  simp [bind_apply, nextNonSpace_peeked _ _ _ hsp]
  simp [textItem, lineNumber_stT _ _ _ _ _ hx.1 hx.2, textNode]

theorem bodyLoop_texts (cfg : Cfg) (fuel : Nat) (b : PSt) (e : Int) (ev : Bytes) :
    ∀ (ts : List (Int × Bytes)) (n : Nat) (acc : List PStmt) (s : PSt),
      (∀ x ∈ ts, InRange b.input x.1) → ts.length + 1 ≤ n → peek s = peekRes b (itemsT ts e ev) →
      bodyLoop cfg (fuel + 1) n acc s = .ok (acc ++ ts.map (textNode b.input)) (peeked b (eofItem e ev) []) := by
  intro ts
  induction ts with
  | nil =>
    intro n acc s _ hn hpk
    obtain ⟨m, rfl⟩ : ∃ m, n = m + 1 := ⟨n - 1, by simp at hn; omega⟩
    rw [bodyLoop]
    simp [bind_apply, hpk, itemsT, peekRes, eofItem]
  | cons x ts ih =>
    intro n acc s hr hn hpk
    obtain ⟨m, rfl⟩ : ∃ m, n = m + 1 := ⟨n - 1, by simp at hn; omega⟩
    rw [bodyLoop]
    have hx := hr x (by simp)
    simp [bind_apply, hpk, itemsT, peekRes, textOrAction_text cfg fuel b x _ hx]
    simp [textNode, PStmt.marker]
    have := ih m (acc ++ [textNode b.input x]) (stT b (itemsT ts e ev) (textItem x) 0 x.1)
      (fun y hy => hr y (by simp [hy])) (by simp at hn; omega) (peek_fresh _ _ _ _)
    simpa [textNode, itemsT] using this

/-- the prologue loop on a text-only item list: it turns a prefix `ts1` of the text items (the
    leading blank ones) into skipped nodes and stops with the next item pushed back -/
theorem prologueLoop_texts (cfg : Cfg) (b : PSt) (hext : b.ext = none) (himp : b.imports = [])
    (e : Int) (ev : Bytes) :
    ∀ (ts : List (Int × Bytes)) (n : Nat) (skipped : List PStmt) (s : PSt),
      (∀ x ∈ ts, InRange b.input x.1) → ts.length + 1 ≤ n → peek s = peekRes b (itemsT ts e ev) →
      ∃ ts1 ts2 u r, ts = ts1 ++ ts2 ∧ itemsT ts2 e ev = u :: r ∧
        prologueLoop cfg n skipped s = .ok (skipped ++ ts1.map (textNode b.input)) (peeked b u r) := by
  intro ts
  induction ts with
  | nil =>
    intro n skipped s _ hn hpk
    obtain ⟨m, rfl⟩ : ∃ m, n = m + 1 := ⟨n - 1, by simp at hn; omega⟩
    refine ⟨[], [], eofItem e ev, [], rfl, rfl, ?_⟩
    rw [prologueLoop]
    simp [bind_apply, hpk, itemsT, peekRes, eofItem]
  | cons x ts ih =>
    intro n skipped s hr hn hpk
    obtain ⟨m, rfl⟩ : ∃ m, n = m + 1 := ⟨n - 1, by simp at hn; omega⟩
    have hx := hr x (by simp)
    have hnext : prologueLoop cfg (m + 1) skipped s =
        (if isBlank x.2 = true then prologueLoop cfg m (skipped ++ [textNode b.input x])
          else do backup; pure skipped) (stT b (itemsT ts e ev) (textItem x) 0 x.1) := by
      rw [prologueLoop]
      simp [bind_apply, hpk, itemsT, peekRes, next_peeked]
      by_cases hb : isBlank x.2 = true
      · simp [hb, bind_apply, Parse.get, hext, himp, lineNumber_stT _ _ _ _ _ hx.1 hx.2, textNode]
      · simp [hb, textItem]
    rw [hnext]
    by_cases hb : isBlank x.2 = true
    · obtain ⟨ts1, ts2, u, r, h1, h2, h3⟩ :=
        ih m (skipped ++ [textNode b.input x]) (stT b (itemsT ts e ev) (textItem x) 0 x.1)
          (fun y hy => hr y (by simp [hy])) (by simp at hn; omega) (peek_fresh _ _ _ _)
      exact ⟨x :: ts1, ts2, u, r, by rw [h1]; rfl, h2, by simpa [hb] using h3⟩
    · exact ⟨[], x :: ts, textItem x, itemsT ts e ev, rfl, rfl,
        by simp [hb, bind_apply, backup, Parse.modify, stT, peeked]⟩

def firstPos (ts : List (Int × Bytes)) (e : Int) : Int :=
  match ts with
  | [] => e
  | x :: _ => x.1

/-- the parser state `Set.parse` starts from -/
def startSt (input name : Bytes) (toks : List Item) : PSt := { input := input, name := name, toks := toks }

/-- the parser state after a text-only template: every item received, the end-of-file item pushed
    back, no `extends`, no imports, no blocks -/
def endSt (input name : Bytes) (e : Int) (ev : Bytes) : PSt :=
  { input := input, name := name, toks := [], t0 := eofItem e ev, peekCount := 1, lastPos := e }

/-- **`parseTemplate` on a text-only item list, exact result**: one text node per text item, in
    order, with the item's bytes and the line of the item's position; the blank text items the
    prologue skipped are in front again. -/
theorem parseTemplate_texts (cfg : Cfg) (fuel : Nat) (input name : Bytes) (ts : List (Int × Bytes))
    (e : Int) (ev : Bytes) (hr : ∀ x ∈ ts, InRange input x.1) (he : InRange input e) :
    parseTemplate cfg (fuel + 1) (startSt input name (itemsT ts e ev)) =
      .ok (lineAt input (firstPos ts e), ts.map (textNode input)) (endSt input name e ev) := by
  let b : PSt := startSt input name []
  have hs0 : startSt input name (itemsT ts e ev) = stT b (itemsT ts e ev) Item.zero 0 0 := rfl
  have hend : endSt input name e ev = peeked b (eofItem e ev) [] := rfl
  obtain ⟨u0, r0, h0, hp0, hr0, hlen⟩ : ∃ u0 r0, itemsT ts e ev = u0 :: r0 ∧ u0.pos = firstPos ts e ∧
      InRange input u0.pos ∧ r0.length = ts.length := by
    cases ts with
    | nil => exact ⟨eofItem e ev, [], rfl, rfl, he, rfl⟩
    | cons x ts => exact ⟨textItem x, itemsT ts e ev, rfl, rfl, hr x (by simp), by simp [itemsT]⟩
  have hr' : ∀ x ∈ ts, InRange b.input x.1 := hr
  have hl : lineNumber (peeked b u0 r0) = .ok (lineAt input (firstPos ts e)) (peeked b u0 r0) := by
    rw [← hp0]; exact lineNumber_stT b r0 u0 1 u0.pos hr0.1 hr0.2
  obtain ⟨ts1, ts2, u, r, h1, h2, h3⟩ := prologueLoop_texts cfg b rfl rfl e ev ts (ts.length + 3) []
    (peeked b u0 r0) hr' (by omega) (by rw [peek_peeked, h0])
  have h4 := bodyLoop_texts cfg fuel b e ev ts2 (ts.length + 3) (ts1.map (textNode b.input)) (peeked b u r)
    (fun x hx => hr' x (by rw [h1]; simp [hx])) (by rw [h1]; simp; omega) (by rw [peek_peeked, h2])
  have hb : (peeked b u0 r0).toks.length + (peeked b u0 r0).peekCount + 2 = ts.length + 3 := by
    simp [peeked, stT, hlen]
  rw [hs0, hend, parseTemplate]
  simp only [bind_apply, peek_fresh, h0, peekRes, andThen_ok, hl, Parse.get, hb, h3, List.nil_append]
  have hc : (peeked b u r).ext.isNone = true ∧ (peeked b u r).imports.isEmpty = true := ⟨rfl, rfl⟩
  simp only [hc, and_self, if_true, h4, andThen_ok, pure_apply, ← List.map_append, ← h1]
  rfl

/-- `Set.parse` on an already lexed text-only source -/
theorem parseItems_texts (cfg : Cfg) (input name : Bytes) (ts : List (Int × Bytes))
    (e : Int) (ev : Bytes) (hr : ∀ x ∈ ts, InRange input x.1) (he : InRange input e) :
    parseItems cfg name input (itemsT ts e ev) =
      .ok { name := name, ext := none, imports := [], passed := [],
            rootLine := lineAt input (firstPos ts e), root := ts.map (textNode input) } := by
  have h := parseTemplate_texts cfg (40 * ((itemsT ts e ev).length + 4) - 1) input name ts e ev hr he
  have hf : 40 * ((itemsT ts e ev).length + 4) - 1 + 1 = fuelFor (itemsT ts e ev) := by
    unfold fuelFor; omega
  rw [hf] at h
  unfold parseItems
  simp only [startSt] at h
  rw [h]
  rfl

theorem shape_of_types (l : List Item) (last : Item) (he : EofLast (l ++ [last]))
    (hl : last.typ = Tok.eof) (ht : ∀ t ∈ l, t.typ = Tok.text ∨ t.typ = Tok.eof) :
    ∃ ts, l ++ [last] = itemsT ts last.pos last.val := by
  refine ⟨l.map fun t => (t.pos, t.val), ?_⟩
  have hall : ∀ t ∈ l, t.typ = Tok.text := by
    intro t hm
    rcases ht t hm with h | h
    · exact h
    · obtain ⟨pre, post, rfl⟩ := List.append_of_mem hm
      have := he pre t (post ++ [last]) (by simp) h
      simp at this
  have hmap : l.map (fun t => textItem (t.pos, t.val)) = l := by
    rw [List.map_congr_left (g := id)]
    · simp
    · intro t hm
      have := hall t hm
      cases t
      simp_all [textItem]
  simp only [itemsT, List.map_map, Function.comp_def, hmap]
  cases last
  simp_all [eofItem]

/-- the tree erasure restricted to text nodes: `PStmt.text l b ↦ Stmt.text ⟨path, l⟩ b`.  This is
    what `Driver/ExecSrc.lean`'s `stmtA` does for a text node; `stmtA` is a `partial def`, hence
    opaque to proofs, so its text case is restated here.  `none` as soon as a node is not text. -/
def eraseTexts (path : Bytes) : List PStmt → Option (List Stmt)
  | [] => some []
  | .text l b :: rest => (eraseTexts path rest).map (Stmt.text ⟨path, l⟩ b :: ·)
  | _ :: _ => none

theorem eraseTexts_textNodes (path input : Bytes) (ts : List (Int × Bytes)) :
    eraseTexts path (ts.map (textNode input)) =
      some (ts.map fun x => Stmt.text ⟨path, lineAt input x.1⟩ x.2) := by
  induction ts with
  | nil => rfl
  | cons x ts ih => simp [textNode, eraseTexts] at ih ⊢; simp [ih]

end JetVerif.TextOnly

namespace JetVerif.TextOnly
open JetVerif JetVerif.Eval

/-- the chunk `writeLit` appends for a text node: tagged `.lit` (no escaper involved) -/
def litChunk (b : Bytes) : Chunk := { tag := .lit, piece := .lit b }

def isTextStmt : Stmt → Bool
  | .text _ _ => true
  | _ => false

def stmtBytes : Stmt → Bytes
  | .text _ b => b
  | _ => []

theorem execListGo_texts (r : Rec) (env : Env) :
    ∀ (stmts : List Stmt) (rv : Val) (ins : Bool) (rt : RT), (∀ s ∈ stmts, isTextStmt s = true) →
      execListGo r env stmts rv ins rt =
        .ok (rv, ins) (appendTo rt rt.writer (stmts.map fun s => litChunk (stmtBytes s))) := by
  intro stmts
  induction stmts with
  | nil => intro rv ins rt _; simp [execListGo, appendTo_nil]; rfl
  | cons s rest ih =>
    intro rv ins rt h
    have hs := h s (by simp)
    cases s with
    | text loc b =>
      have hst : execStmt r env ins (.text loc b) rt =
          .ok (.invalid, .invalid, ins) (appendTo rt rt.writer [litChunk b]) := rfl
      rw [execListGo]
      simp only [hst, isReturnStmt, Val.isValid]
      rw [ih _ _ _ (fun s hs => h s (by simp [hs])), appendTo_writer, appendTo_appendTo]
      simp [stmtBytes]
    | _ => simp [isTextStmt] at hs

/-- **a list of text statements, exact result**: one `.lit` chunk per statement is appended to the
    current destination, in source order (the list `appendTo` takes; it keeps the sink most recent first),
    nothing is returned, nothing else changes -/
theorem execList_texts (n : Nat) (env : Env) (stmts : List Stmt) (rt : RT)
    (h : ∀ s ∈ stmts, isTextStmt s = true) :
    (recAt (n + 1)).execList env stmts rt =
      .ok .invalid (appendTo rt rt.writer (stmts.map fun s => litChunk (stmtBytes s))) := by
  show execListF (recAt n) env stmts rt = _
  simp [execListF, execListGo_texts _ _ _ _ _ _ h]

def chunkBytes (c : Chunk) : Bytes :=
  match c.piece with
  | .lit b => b
  | .flt _ _ => []

def outBytes (out : List Chunk) : Bytes := (out.map chunkBytes).flatten

theorem outBytes_litChunks (vs : List Bytes) : outBytes (vs.map litChunk) = vs.flatten := by
  simp [outBytes, List.map_map, Function.comp_def, chunkBytes, litChunk]

/-- **`Template.Execute` on a template whose root is a list of text statements**: the output is one
    `.lit` chunk per statement, in order; no error, nothing logged; for any variables and data -/
theorem execute_texts (n : Nat) (env : Env) (name : Bytes) (blocks : List (Bytes × BlockN))
    (stmts : List Stmt) (vars : List (Bytes × Val)) (data : Val) (h : ∀ s ∈ stmts, isTextStmt s = true) :
    execute (n + 1) env { name := name, ext := none, imports := [], blocks := blocks, root := stmts } vars data =
      .ok (stmts.map fun s => litChunk (stmtBytes s)) [] := by
  simp [execute, rootOf, execList_texts n env stmts _ h, appendTo, initRT, Wr.idx]

end JetVerif.TextOnly
