/-
  Helper lemmas for Props/C05E.lean: how the evaluator model executes an if / else-if / else chain,
  i.e. the nested `Stmt.ifS` shape the parser builds (`{{else if c}}` = an else list whose only
  statement is the next `if`; Props/C05P `if_chain_is_parsed_as_written`).

  What the model does (Model/Eval.lean):
  * `execStmt r env ins (.ifS loc none c t els)` is `ifBranches r env c t els`, the returned value
    passed on; an `if` without `:=` opens NO scope of its own (`execIf`, case `none`).  The chosen list
    is run by `r.execList`, which opens a let-scope only if the list itself contains a `:=` action and
    releases it at the end of the list (`execListF`).
  * `(recAt (n+1)).execList env [s]` for `s` an `if` without `:=` is `ifBranches (recAt n) …`: a nested
    else list costs one unit of fuel (`execList_single_if`).  Hence in a chain run at fuel `K` the
    j-th condition (j = 0, 1, …) is evaluated by `(recAt (K - j)).evalExpr` and the j-th body, when
    chosen, by `(recAt (K - j)).execList`; a final else list runs at the fuel of the last condition.

  The second half of the file specialises this to chains whose conditions are identifiers and whose
  bodies are text (`gClause` in the statement grammar, `eClause` for the evaluator), run from any runtime
  (`run_idChain_*`: what matters is what the identifiers stand for in it, `lookupVal`; at the start of
  `Template.Execute` that is `identVal`, by `lookupVal_initRT`), and restates the driver's tree erasure for
  the nodes of such chains (`eraseS`).
-/
import JetVerif.Lemmas.TextOnly
import JetVerif.Props.C05
import JetVerif.Model.StmtGrammar

namespace JetVerif.IfChain
open JetVerif JetVerif.Eval

/-- one clause of a chain: `{{if cond}} body` or `{{else if cond}} body`; `loc` is the node's position -/
structure Clause where
  loc : Loc
  cond : Expr
  body : List Stmt

/-- what follows the body of a clause: nothing (`{{end}}`), the final else list, or - for
    `{{else if …}}` - an else list whose ONLY statement is the next `if` of the chain -/
def chainElse : List Clause → Option (List Stmt) → Option (List Stmt)
  | [], fin => fin
  | cl :: more, fin => some [.ifS cl.loc none cl.cond cl.body (chainElse more fin)]

/-- `if c₀ then b₀ else if c₁ then b₁ … [else fin]` as nested `ifS` nodes (first clause `cl`, the
    `else if` clauses `more`, the optional final else list `fin`) -/
def chainStmt (cl : Clause) (more : List Clause) (fin : Option (List Stmt)) : Stmt :=
  .ifS cl.loc none cl.cond cl.body (chainElse more fin)

theorem chainElse_cons (cl : Clause) (more : List Clause) (fin : Option (List Stmt)) :
    chainElse (cl :: more) fin = some [chainStmt cl more fin] := rfl

/-- the result of an `if` statement, given the result of its branches: the value is handed on as the
    statement's `ret`, there is no `return` override, the list's let-scope flag is untouched -/
def stmtRes (ins : Bool) : Res Val → Res (Val × Val × Bool)
  | .ok v rt => .ok (v, .invalid, ins) rt
  | .err e rt => .err e rt
  | .crash m rt => .crash m rt
  | .fuel => .fuel
  | .unsupported w => .unsupported w

theorem isValid_ite (v : Val) : (if v.isValid then v else Val.invalid) = v := by
  cases v <;> simp [Val.isValid]

theorem stmtRes_bind (m : M Val) (ins : Bool) (rt : RT) :
    (m >>= fun ret => pure (ret, Val.invalid, ins)) rt = stmtRes ins (m rt) := by
  rw [bind_def]
  cases m rt <;> rfl

theorem execStmt_if (r : Rec) (env : Env) (ins : Bool) (loc : Loc) (c : Expr) (t : List Stmt)
    (els : Option (List Stmt)) (rt : RT) :
    execStmt r env ins (.ifS loc none c t els) rt = stmtRes ins (ifBranches r env c t els rt) :=
  stmtRes_bind (ifBranches r env c t els) ins rt

theorem execListF_single (r : Rec) (env : Env) (s : Stmt) (m : M Val) (rt : RT)
    (hs : execStmt r env false s rt = stmtRes false (m rt)) (hr : isReturnStmt s = false)
    (hl : stmtOpensLet s = false) : execListF r env [s] rt = m rt := by
  simp only [execListF, execListGo, hs, hr, hl]
  cases m rt <;> simp [stmtRes, isValid_ite] <;> rfl

theorem execList_single_if (n : Nat) (env : Env) (loc : Loc) (c : Expr) (t : List Stmt)
    (els : Option (List Stmt)) (rt : RT) :
    (recAt (n + 1)).execList env [.ifS loc none c t els] rt = ifBranches (recAt n) env c t els rt :=
  execListF_single (recAt n) env _ _ rt (execStmt_if _ env false loc c t els rt) rfl rfl

/-- running what follows a falsy condition, at fuel `K`: the else part `chainElse cs fin` if there is
    one (`r.execList` on it), nothing otherwise.  This is exactly the else case of `ifBranches`. -/
def elsePart (K : Nat) (env : Env) (cs : List Clause) (fin : Option (List Stmt)) : M Val :=
  match chainElse cs fin with
  | some l => (recAt K).execList env l
  | none => pure .invalid

theorem elsePart_cons (K : Nat) (env : Env) (cl : Clause) (more : List Clause) (fin : Option (List Stmt)) (rt : RT) :
    elsePart (K + 1) env (cl :: more) fin rt =
      ifBranches (recAt K) env cl.cond cl.body (chainElse more fin) rt :=
  execList_single_if K env cl.loc cl.cond cl.body _ rt

theorem elsePart_nil_some (K : Nat) (env : Env) (l : List Stmt) :
    elsePart K env [] (some l) = (recAt K).execList env l := rfl

theorem elsePart_nil_none (K : Nat) (env : Env) (rt : RT) :
    elsePart K env [] none rt = .ok .invalid rt := rfl

theorem execStmt_chain (K : Nat) (env : Env) (ins : Bool) (cl : Clause) (more : List Clause)
    (fin : Option (List Stmt)) (rt : RT) :
    execStmt (recAt K) env ins (chainStmt cl more fin) rt = stmtRes ins (elsePart (K + 1) env (cl :: more) fin rt) := by
  rw [elsePart_cons]; exact execStmt_if _ _ _ _ _ _ _ _

theorem ifBranches_falsy (K : Nat) (env : Env) (c : Expr) (t : List Stmt) (cs : List Clause)
    (fin : Option (List Stmt)) (rt rt1 : RT) (v : Val)
    (hc : (recAt K).evalExpr env c rt = .ok v rt1) (hv : Val.isTrue v = some false) :
    ifBranches (recAt K) env c t (chainElse cs fin) rt = elsePart K env cs fin rt1 :=
  Props.C05.if_runs_the_selected_list _ env c t _ rt rt1 v false hc hv

theorem ifBranches_fails (r : Rec) (env : Env) (c : Expr) (t : List Stmt) (els : Option (List Stmt)) (rt : RT)
    (hc : ∀ v rt1, r.evalExpr env c rt ≠ .ok v rt1) : ifBranches r env c t els rt = r.evalExpr env c rt := by
  unfold ifBranches
  rw [bind_def]
  cases h : r.evalExpr env c rt with
  | ok v rt1 => exact absurd h (hc v rt1)
  | _ => rfl

/-- `Falsy env M pre rt rt'`: evaluated one after the other from runtime `rt`, the conditions of `pre`
    all succeed with a falsy value and leave runtime `rt'`; the LAST one is evaluated at fuel `M + 1`,
    the one before at `M + 2`, …, the first at `M + pre.length` (so whatever comes next in the chain is
    at fuel `M`). -/
inductive Falsy (env : Env) (M : Nat) : List Clause → RT → RT → Prop
  | nil (rt : RT) : Falsy env M [] rt rt
  | cons {cl : Clause} {more : List Clause} {rt rt1 rt' : RT} {v : Val} :
      (recAt (M + more.length + 1)).evalExpr env cl.cond rt = .ok v rt1 → Val.isTrue v = some false →
      Falsy env M more rt1 rt' → Falsy env M (cl :: more) rt rt'

/-- conditions that do not touch the runtime and whose value does not depend on the fuel (literals,
    identifiers, …): enough to know each of them is falsy at every fuel ≥ 1 -/
theorem Falsy.of_forall (env : Env) (M : Nat) (rt : RT) : ∀ (pre : List Clause),
    (∀ cl ∈ pre, ∀ n, ∃ v, (recAt (n + 1)).evalExpr env cl.cond rt = .ok v rt ∧ Val.isTrue v = some false) →
    Falsy env M pre rt rt
  | [], _ => .nil rt
  | cl :: more, h => by
    obtain ⟨v, h1, h2⟩ := h cl (by simp) (M + more.length)
    exact .cons h1 h2 (Falsy.of_forall env M rt more (fun c hc => h c (by simp [hc])))

/-- after a falsy prefix the chain goes on with the rest, `pre.length` units of fuel further down
    (`elsePart (K + 1)` evaluates its first condition at fuel `K`) -/
theorem elsePart_skip (env : Env) (M : Nat) (fin : Option (List Stmt)) (rest : List Clause) :
    ∀ (pre : List Clause) (rt rt1 : RT), Falsy env M pre rt rt1 →
      elsePart (M + pre.length + 1) env (pre ++ rest) fin rt = elsePart (M + 1) env rest fin rt1 := by
  intro pre rt rt1 h
  induction h with
  | nil rt => rfl
  | @cons cl more rt rt1 rt' v hc hv _ ih =>
    show elsePart (M + more.length + 1 + 1) env (cl :: (more ++ rest)) fin rt = _
    rw [elsePart_cons, ifBranches_falsy _ env _ _ _ fin rt rt1 v hc hv, ih]

theorem elsePart_truthy (env : Env) (M : Nat) (fin : Option (List Stmt)) (pre : List Clause) (cl : Clause)
    (post : List Clause) (rt rt1 rt2 : RT) (v : Val) (hpre : Falsy env M pre rt rt1)
    (hc : (recAt M).evalExpr env cl.cond rt1 = .ok v rt2) (hv : Val.isTrue v = some true) :
    elsePart (M + pre.length + 1) env (pre ++ cl :: post) fin rt = (recAt M).execList env cl.body rt2 := by
  rw [elsePart_skip env M fin (cl :: post) pre rt rt1 hpre, elsePart_cons]
  exact Props.C05.if_truthy_runs_then _ env _ _ _ rt1 rt2 v hc hv

theorem elsePart_allFalsy (env : Env) (M : Nat) (fin : Option (List Stmt)) (cs : List Clause)
    (rt rt1 : RT) (h : Falsy env M cs rt rt1) :
    elsePart (M + cs.length + 1) env cs fin rt = elsePart (M + 1) env [] fin rt1 := by
  have := elsePart_skip env M fin [] cs rt rt1 h
  rwa [List.append_nil] at this

theorem elsePart_fails (env : Env) (M : Nat) (fin : Option (List Stmt)) (pre : List Clause) (cl : Clause)
    (post : List Clause) (rt rt1 : RT) (hpre : Falsy env M pre rt rt1)
    (hc : ∀ v rt2, (recAt M).evalExpr env cl.cond rt1 ≠ .ok v rt2) :
    elsePart (M + pre.length + 1) env (pre ++ cl :: post) fin rt = (recAt M).evalExpr env cl.cond rt1 := by
  rw [elsePart_skip env M fin (cl :: post) pre rt rt1 hpre, elsePart_cons]
  exact ifBranches_fails _ env _ _ _ rt1 hc

theorem execList_chain (K : Nat) (env : Env) (cl : Clause) (more : List Clause) (fin : Option (List Stmt)) :
    (recAt (K + 1)).execList env [chainStmt cl more fin] = elsePart (K + 1) env (cl :: more) fin := rfl

/-- `Runtime.resolve` as a function of the runtime (it never changes it) -/
def lookupVal (env : Env) (rt : RT) (name : Bytes) : Option Val :=
  if name = [46] then some rt.ctx
  else match lookupChain rt name rt.scope with
    | some (_, v) => some v.indirectEface
    | none =>
      match alookup name env.globals with
      | some v => some v.indirectEface
      | none => defaultVar name

theorem resolve_eq (env : Env) (name : Bytes) (rt : RT) : resolve env name rt = .ok (lookupVal env rt name) rt := by
  unfold resolve lookupVal
  by_cases h : name = [46]
  · simp [h]
  · simp only [h, if_false]
    cases lookupChain rt name rt.scope with
    | some p => rfl
    | none =>
      cases alookup name env.globals with
      | some v => rfl
      | none => cases defaultVar name <;> rfl

def notAvailable (loc : Loc) : Err := { located := true, loc := loc, what := "identifier not available" }

theorem evalExpr_ident (n : Nat) (env : Env) (loc : Loc) (name : Bytes) (rt : RT) :
    (recAt (n + 1)).evalExpr env (.ident loc name) rt =
      match lookupVal env rt name with
      | some v => .ok v rt
      | none => .err (notAvailable loc) rt := by
  show (resolve env name >>= fun o => match o with
    | some v => pure v | none => errAt loc "identifier not available") rt = _
  rw [bind_ok (resolve_eq env name rt)]
  cases lookupVal env rt name <;> rfl

/-- what an identifier stands for at the start of `Template.Execute(w, vars, data)`: `.` is the data;
    otherwise the variable of that name, else the global, else the built-in (interface values unwrapped) -/
def identVal (env : Env) (vars : List (Bytes × Val)) (data : Val) (name : Bytes) : Option Val :=
  if name = [46] then some data
  else match alookup name vars with
    | some v => some v.indirectEface
    | none =>
      match alookup name env.globals with
      | some v => some v.indirectEface
      | none => defaultVar name

theorem lookupVal_initRT (env : Env) (t : Tmpl) (vars : List (Bytes × Val)) (data : Val) (name : Bytes) :
    lookupVal env (initRT t vars data) name = identVal env vars data name := by
  unfold lookupVal identVal
  simp only [initRT, lookupChain, frameAt, List.getElem?_cons_zero]
  cases alookup name vars <;> rfl

/-! ### the erasure of the parser's tree, for text and `if` nodes

  `Driver/ExecSrc.lean`'s `stmtA` / `exprA` / `optListA` turn the parser's tree into the evaluator's; they
  are `partial def`s, hence opaque to proofs.  Their cases for text nodes, for `if` nodes without `:=`
  and for leaf expressions are restated here as total functions: a node at line `l` gets the position
  `⟨path, l⟩`, an `if` keeps its condition, its body and its else list (the line of the list is dropped),
  and `none` as soon as anything else occurs. -/

/-- `exprA` on leaf expressions -/
def eraseE (path : Bytes) : Parse.PExpr → Option Expr
  | .ident l n => some (.ident ⟨path, l⟩ n)
  | .nilLit l => some (.nilLit ⟨path, l⟩)
  | .boolLit l b => some (.boolLit ⟨path, l⟩ b)
  | .strLit l s => some (.strLit ⟨path, l⟩ s)
  | _ => none

mutual
/-- `stmtA` on text nodes and on `if` nodes without `:=` -/
def eraseS (path : Bytes) : Parse.PStmt → Option Stmt
  | .text l b => some (.text ⟨path, l⟩ b)
  | .branch true l none (some c) _ list els =>
    match eraseE path c, eraseL path list, eraseO path els with
    | some c', some body, some el => some (.ifS ⟨path, l⟩ none c' body el)
    | _, _, _ => none
  | _ => none
/-- `list.mapM (stmtA path)` -/
def eraseL (path : Bytes) : List Parse.PStmt → Option (List Stmt)
  | [] => some []
  | s :: rest =>
    match eraseS path s, eraseL path rest with
    | some a, some b => some (a :: b)
    | _, _ => none
/-- `optListA` -/
def eraseO (path : Bytes) : Option (Nat × List Parse.PStmt) → Option (Option (List Stmt))
  | none => some none
  | some (_, ns) =>
    match eraseL path ns with
    | some l => some (some l)
    | none => none
end

theorem eraseL_texts (path : Bytes) (line : Nat) (bs : List Bytes) :
    eraseL path (bs.map (Parse.PStmt.text line)) = some (bs.map (Stmt.text ⟨path, line⟩)) := by
  induction bs with
  | nil => simp [eraseL]
  | cons b bs ih => simp [eraseL, eraseS, ih]

open JetVerif.StmtGrammar

def textsL (bs : List Bytes) : L := L.ofList (bs.map S.text)

theorem treeL_textsL (bs : List Bytes) : treeL (textsL bs) = bs.map (Parse.PStmt.text 1) := by
  induction bs with
  | nil => simp [textsL, L.ofList, treeL]
  | cons b bs ih => simp only [textsL] at ih; simp [textsL, L.ofList, treeL, treeS, ih]

/-- a clause of the grammar: `{{if name}}` / `{{else if name}}` followed by text items -/
def gClause (x : Bytes × List Bytes) : ExprGrammar.E7 × L := (atom7 x.1, textsL x.2)

/-- the same clause for the evaluator: everything is on line 1 of `path` (the canonical spelling of
    Model/StmtGrammar.lean puts every item at position 0) -/
def eClause (path : Bytes) (x : Bytes × List Bytes) : Clause :=
  { loc := ⟨path, 1⟩, cond := .ident ⟨path, 1⟩ x.1, body := x.2.map (Stmt.text ⟨path, 1⟩) }

def eFin (path : Bytes) (fin : Option (List Bytes)) : Option (List Stmt) :=
  fin.map fun bs => bs.map (Stmt.text ⟨path, 1⟩)

theorem tree7_atom7 (n : Bytes) : ExprGrammar.tree7 (atom7 n) = .ident 1 n := rfl

open JetVerif.TextOnly

theorem falsy_idents (env : Env) (path : Bytes) (rt : RT) (M : Nat) (pre : List (Bytes × List Bytes))
    (h : ∀ x ∈ pre, ∃ v, lookupVal env rt x.1 = some v ∧ Val.isTrue v = some false) :
    Falsy env M (pre.map (eClause path)) rt rt := by
  apply Falsy.of_forall
  intro cl hcl n
  obtain ⟨x, hx, rfl⟩ := List.mem_map.mp hcl
  obtain ⟨v, h1, h2⟩ := h x hx
  refine ⟨v, ?_, h2⟩
  show (recAt (n + 1)).evalExpr env (.ident ⟨path, 1⟩ x.1) _ = _
  rw [evalExpr_ident, h1]

theorem exec_texts_body (m : Nat) (env : Env) (loc : Loc) (bs : List Bytes) (rt : RT) :
    (recAt (m + 1)).execList env (bs.map (Stmt.text loc)) rt = .ok .invalid (appendTo rt rt.writer (bs.map litChunk)) := by
  rw [execList_texts m env _ rt (by intro s hs; obtain ⟨b, _, rfl⟩ := List.mem_map.mp hs; rfl)]
  simp [List.map_map, Function.comp_def, stmtBytes]

theorem run_idChain_skip (env : Env) (path : Bytes) (rt : RT)
    (hd : Bytes × List Bytes) (tl pre rest : List (Bytes × List Bytes)) (fin : Option (List Bytes)) (K M : Nat)
    (hK : K = M + pre.length + 1) (hsplit : hd :: tl = pre ++ rest)
    (hpre : ∀ y ∈ pre, ∃ w, lookupVal env rt y.1 = some w ∧ Val.isTrue w = some false) :
    (recAt K).execList env [chainStmt (eClause path hd) (tl.map (eClause path)) (eFin path fin)] rt =
      elsePart (M + 1) env (rest.map (eClause path)) (eFin path fin) rt := by
  subst hK
  have := elsePart_skip env M (eFin path fin) (rest.map (eClause path)) _ _ _ (falsy_idents env path rt M pre hpre)
  rwa [List.length_map, ← List.map_append, ← hsplit] at this

theorem run_idChain_truthy (env : Env) (path : Bytes) (rt : RT)
    (hd : Bytes × List Bytes) (tl pre post : List (Bytes × List Bytes)) (x : Bytes × List Bytes)
    (fin : Option (List Bytes)) (m : Nat) (v : Val) (hsplit : hd :: tl = pre ++ x :: post)
    (hpre : ∀ y ∈ pre, ∃ w, lookupVal env rt y.1 = some w ∧ Val.isTrue w = some false)
    (hx : lookupVal env rt x.1 = some v) (hv : Val.isTrue v = some true) :
    (recAt (m + pre.length + 2)).execList env
        [chainStmt (eClause path hd) (tl.map (eClause path)) (eFin path fin)] rt =
      .ok .invalid (appendTo rt rt.writer (x.2.map litChunk)) := by
  rw [run_idChain_skip env path rt hd tl pre _ fin _ (m + 1) (by omega) hsplit hpre, List.map_cons, elsePart_cons,
    Props.C05.if_truthy_runs_then _ env _ _ _ _ _ v (by rw [eClause, evalExpr_ident, hx]) hv]
  exact exec_texts_body m env _ x.2 _

theorem run_idChain_allFalsy (env : Env) (path : Bytes) (rt : RT)
    (hd : Bytes × List Bytes) (tl : List (Bytes × List Bytes)) (fin : Option (List Bytes)) (m : Nat)
    (hall : ∀ y ∈ hd :: tl, ∃ w, lookupVal env rt y.1 = some w ∧ Val.isTrue w = some false) :
    (recAt (m + tl.length + 2)).execList env
        [chainStmt (eClause path hd) (tl.map (eClause path)) (eFin path fin)] rt =
      .ok .invalid (appendTo rt rt.writer ((fin.getD []).map litChunk)) := by
  rw [run_idChain_skip env path rt hd tl (hd :: tl) [] fin _ m (by simp; omega) (by simp) hall]
  cases fin with
  | none => simp [eFin, elsePart_nil_none, appendTo_nil]
  | some bs => simpa [eFin, elsePart_nil_some] using exec_texts_body m env _ bs _

theorem run_idChain_unbound (env : Env) (path : Bytes) (rt : RT)
    (hd : Bytes × List Bytes) (tl pre post : List (Bytes × List Bytes)) (x : Bytes × List Bytes)
    (fin : Option (List Bytes)) (m : Nat) (hsplit : hd :: tl = pre ++ x :: post)
    (hpre : ∀ y ∈ pre, ∃ w, lookupVal env rt y.1 = some w ∧ Val.isTrue w = some false)
    (hx : lookupVal env rt x.1 = none) :
    (recAt (m + pre.length + 2)).execList env
        [chainStmt (eClause path hd) (tl.map (eClause path)) (eFin path fin)] rt =
      .err (notAvailable ⟨path, 1⟩) rt := by
  have he : (recAt (m + 1)).evalExpr env (eClause path x).cond rt = .err (notAvailable ⟨path, 1⟩) rt := by
    rw [eClause, evalExpr_ident, hx]
  rw [run_idChain_skip env path rt hd tl pre _ fin _ (m + 1) (by omega) hsplit hpre, List.map_cons, elsePart_cons,
    ifBranches_fails _ env _ _ _ _ (by simp [he]), he]

end JetVerif.IfChain
