/-
  The pure helpers of the evaluator (monad `P`): which `crash` messages each can produce.

  `PCr Ok p` says every crash message of `p` satisfies `Ok`; each helper is characterised once, for
  an arbitrary `Ok`.  Most helpers have no crash site at all; the sites of `resolveIndex`,
  `evalNumericComparative` and the promotion site of `evalMultiplicative` are unreachable; the
  remaining ones (`evalMultiplicative`'s operator, `applyGoFunc`, `applyMethod`) appear as
  hypotheses.  `PClean` (Lemmas/EvalScope.lean) and `PTot` (Lemmas/EvalTotal.lean) are `PCr` at
  `¬ ScopeMsg ·` and at `Allowed`.
-/
import JetVerif.Lemmas.EvalEqns

namespace JetVerif.Eval

def PCr (Ok : String → Prop) {α} (p : P α) : Prop := ∀ s, p = .error (.crash s) → Ok s

section rules
variable {Ok : String → Prop} {α β : Type}

theorem pcr_ok (a : α) : PCr Ok (.ok a : P α) := fun _ h => by cases h
theorem pcr_pure (a : α) : PCr Ok (pure a : P α) := pcr_ok a
theorem pcr_err (e : Err) : PCr Ok (throwErr e : P α) := fun _ h => by cases h
theorem pcr_errAt (l : Loc) (s : String) : PCr Ok (errAt l s : P α) := pcr_err _
theorem pcr_errPlain (s : String) : PCr Ok (errPlain s : P α) := pcr_err _
theorem pcr_unsupported (s : String) : PCr Ok (unsupported s : P α) := fun _ h => by cases h
theorem pcr_crash (s : String) : PCr Ok (crash s : P α) ↔ Ok s :=
  ⟨fun h => h s rfl, fun hs _ h => by cases h; exact hs⟩
theorem pcr_liftOpt (w : String) (o : Option α) : PCr Ok (liftOpt w o : P α) := by
  cases o
  · exact pcr_unsupported w
  · exact pcr_pure _

theorem pcr_bind {p : P α} {f : α → P β} :
    PCr Ok (p >>= f) ↔ PCr Ok p ∧ ∀ a, p = .ok a → PCr Ok (f a) := by
  cases p with
  | ok a => exact ⟨fun h => ⟨pcr_ok a, fun b hb => by cases hb; exact h⟩, fun h => h.2 a rfl⟩
  | error e =>
    refine ⟨fun h => ⟨fun s hs => h s (by cases hs; rfl), fun a ha => by cases ha⟩, fun h s hs => h.1 s ?_⟩
    have h' : (Except.error e : P β) = .error (.crash s) := hs
    cases h'; rfl

theorem pcr_ite {c : Prop} [Decidable c] {a b : P α} :
    PCr Ok (if c then a else b) ↔ (c → PCr Ok a) ∧ (¬ c → PCr Ok b) := by
  split <;> simp [*]

theorem PCr.ite {c : Prop} [Decidable c] {a b : P α} (ha : PCr Ok a) (hb : PCr Ok b) :
    PCr Ok (if c then a else b) := pcr_ite.mpr ⟨fun _ => ha, fun _ => hb⟩

theorem PCr.locateP (loc : Loc) {p : P α} (hp : PCr Ok p) : PCr Ok (locateP loc p) := by
  intro s h
  rcases locateP_cases loc p with e | ⟨_, _, _, e⟩ <;> rw [e] at h
  · exact hp s h
  · cases h

end rules

open Lean.Parser.Tactic in
/-- closes what `fun_cases` leaves of a helper: each is a `pure`, an error, or a bind of
    helpers already characterised (given in brackets) -/
macro "pcr_leaves" " [" hs:simpLemma,* "]" : tactic => `(tactic| all_goals simp +zetaDelta only
  [pcr_bind, pcr_pure, pcr_ok, pcr_errAt, pcr_errPlain, pcr_unsupported, pcr_liftOpt, pcr_crash, pcr_ite,
   implies_true, and_self, and_true, true_and, $hs,*])

variable {Ok : String → Prop}

theorem toInt_pcr (v : Val) : PCr Ok (toInt v) := by fun_cases toInt v; pcr_leaves []
theorem toUint_pcr (v : Val) : PCr Ok (toUint v) := by fun_cases toUint v; pcr_leaves []
theorem toFloat_pcr (v : Val) : PCr Ok (toFloat v) := by fun_cases toFloat v; pcr_leaves []
theorem indexArg_pcr (i : Val) (cap : Nat) : PCr Ok (indexArg i cap) := by
  fun_cases indexArg i cap; pcr_leaves []

theorem evalAdditive_pcr (l1 l2 l3 : Loc) (p : Bool) (a : Option Val) (c : Val) :
    PCr Ok (evalAdditive l1 l2 l3 p a c) := by
  fun_cases evalAdditive l1 l2 l3 p a c
  pcr_leaves [toInt_pcr, toUint_pcr, toFloat_pcr]

theorem checkEquality_pcr (a c : Val) : PCr Ok (checkEquality a c) := by
  fun_cases checkEquality a c
  pcr_leaves [toInt_pcr, toUint_pcr, toFloat_pcr]

theorem convertArg_pcr (t : Ty) (v : Val) : PCr Ok (convertArg t v) := by
  fun_cases convertArg t v; pcr_leaves []
theorem convArg_pcr (t : Ty) (v : Val) (w : String) : PCr Ok (convArg t v w) := by
  unfold convArg
  refine .ite (pcr_pure _) (pcr_bind.mpr ⟨convertArg_pcr t v, fun o _ => ?_⟩)
  cases o <;> exact pcr_pure _
theorem parseIntoInt_pcr (v : Val) : PCr Ok (parseIntoInt v) := by fun_cases parseIntoInt v; pcr_leaves []
theorem apiName_pcr (v : Val) : PCr Ok (apiName v) := by fun_cases apiName v; pcr_leaves []
theorem lenOf_pcr (v : Val) : PCr Ok (applyJetFunc.lenOf v) := by fun_cases applyJetFunc.lenOf v; pcr_leaves []
theorem notNilP_pcr (v : Val) : PCr Ok (notNilP v) := by fun_cases notNilP v; pcr_leaves []
theorem getSibling_pcr (env : Env) (a c : Bytes) : PCr Ok (getSibling env a c) := by
  fun_cases getSibling env a c; pcr_leaves []
theorem getRanger_pcr (v : Val) : PCr Ok (getRanger v) := by
  unfold getRanger
  refine .ite (pcr_errPlain _) ?_
  split
  · exact pcr_pure _
  · refine .ite (pcr_errPlain _) ?_
    split <;> first | exact pcr_pure _ | exact pcr_unsupported _ | exact pcr_errPlain _

/-- the `"unreachable"` sites: an int or uint on the left of a float is promoted -/
theorem evalNumericComparative_pcr (l : Loc) (op : Tok) (a c : Val) :
    PCr Ok (evalNumericComparative l op a c) := by
  fun_cases evalNumericComparative l op a c
  pcr_leaves [toInt_pcr, toUint_pcr, toFloat_pcr]
  -- left: the two `else crash "unreachable"` arms; `‹_›` is their branch hypothesis `¬ needFloatPromotion = true`,
  -- and with an int or uint on the left of a float `needFloatPromotion` computes to `true`
  all_goals exact absurd rfl ‹_›

theorem chk_lt (cap : Nat) (x : Int) (i : Nat)
    (h : (if x < 0 ∨ x ≥ cap then (errPlain "index out of range" : P Nat) else pure x.toNat) = .ok i) :
    i < cap := by
  split at h
  · cases h
  · cases h; omega

theorem indexArg_lt (v : Val) (cap i : Nat) (h : indexArg v cap = .ok i) : i < cap := by
  unfold indexArg at h
  dsimp only at h
  split at h
  · exact chk_lt _ _ _ h
  · exact chk_lt _ _ _ h
  · rename_i bts
    cases hf : floatToInt bts with
    | none => rw [hf] at h; cases h
    | some x => rw [hf] at h; exact chk_lt _ _ _ h
  · cases h
  · cases h
  · cases h

/-- the `"unreachable index"` sites: `indexArg` returns an index below the length -/
theorem resolveIndex_pcr (v i : Val) (s : Option Bytes) : PCr Ok (resolveIndex v i s) := by
  unfold resolveIndex
  refine .ite (pcr_errPlain _) ?_
  dsimp only
  split
  · exact pcr_errPlain _
  · split
    · exact pcr_pure _
    · split
      iterate 3
        refine pcr_bind.mpr ⟨indexArg_pcr _ _, fun i hi => ?_⟩
        rw [List.getElem?_eq_getElem (indexArg_lt _ _ _ hi)]
        exact pcr_pure _
      all_goals repeat' split
      all_goals first | exact pcr_pure _ | exact pcr_errPlain _ | exact pcr_unsupported _

theorem evalFieldPath_pcr (loc : Loc) : ∀ (fs : List Bytes) (v : Val), PCr Ok (evalFieldPath loc v fs)
  | [], v => pcr_pure _
  | f :: rest, v => by
    unfold evalFieldPath
    have hr := resolveIndex_pcr (Ok := Ok) v .invalid (some f)
    split
    · exact fun _ h => by cases h
    · next x hx => exact fun s h => by cases h; exact hr s hx
    · exact .ite (pcr_errAt _ _) (evalFieldPath_pcr loc rest _)

theorem evalChainFields_pcr : ∀ (fs : List Bytes) (v : Val), PCr Ok (evalChainFields v fs)
  | [], v => pcr_pure _
  | [f], v => by
    unfold evalChainFields
    refine pcr_bind.mpr ⟨resolveIndex_pcr _ _ _, fun x _ => .ite ?_ (pcr_pure _)⟩
    split <;> first | exact pcr_pure _ | exact pcr_errPlain _
  | f :: g :: rest, v => by
    unfold evalChainFields
    exact pcr_bind.mpr ⟨resolveIndex_pcr _ _ _, fun x _ => .ite (pcr_errPlain _) (evalChainFields_pcr _ _)⟩

theorem isSetFieldPath_pcr : ∀ (fs : List Bytes) (v : Val), PCr Ok (isSetFieldPath v fs)
  | [], v => pcr_pure _
  | f :: rest, v => by
    unfold isSetFieldPath
    exact pcr_bind.mpr ⟨resolveIndex_pcr _ _ _, fun x _ => pcr_bind.mpr ⟨notNilP_pcr _, fun _ _ =>
      .ite (pcr_pure _) (isSetFieldPath_pcr _ _)⟩⟩

theorem pcr_foldlM {α β} (f : β → α → P β) :
    ∀ (xs : List α) (b : β), (∀ b a, a ∈ xs → PCr Ok (f b a)) → PCr Ok (xs.foldlM f b)
  | [], b, _ => by rw [List.foldlM_nil]; exact pcr_pure _
  | x :: xs, b, hf => by
    rw [List.foldlM_cons]
    exact pcr_bind.mpr ⟨hf b x List.mem_cons_self, fun b' _ =>
      pcr_foldlM f xs b' fun b a ha => hf b a (List.mem_cons_of_mem _ ha)⟩

theorem pcr_mapM {α β} (f : α → P β) : ∀ xs : List α, (∀ a ∈ xs, PCr Ok (f a)) → PCr Ok (xs.mapM f)
  | [], _ => by rw [List.mapM_nil]; exact pcr_pure _
  | x :: xs, hf => by
    rw [List.mapM_cons]
    exact pcr_bind.mpr ⟨hf x List.mem_cons_self, fun _ _ => pcr_bind.mpr
      ⟨pcr_mapM f xs fun a ha => hf a (List.mem_cons_of_mem _ ha), fun _ _ => pcr_pure _⟩⟩

/-- `strings.Repeat`'s own panic, and the two sites that are unreachable once the arguments have
    been converted to the parameter types (`hcat`, `hsum`) -/
theorem applyGoFunc_pcr (id : String) (args : List Val) (hrep : Ok "strings: negative Repeat count")
    (hcat : id = "cat" → ∀ v ∈ args.tail, (∃ s, v = .str s) ∨ Ok "unreachable cat arg")
    (hsum : id = "sum" → ∀ v ∈ args, (∃ i, v = .int i) ∨ Ok "unreachable sum arg") :
    PCr Ok (applyGoFunc id args) := by
  fun_cases applyGoFunc id args
  pcr_leaves []
  · exact hrep
  · refine pcr_foldlM _ _ _ fun acc v hv => ?_
    rcases hcat rfl v hv with ⟨s, rfl⟩ | h
    · exact pcr_pure _
    · split <;> first | exact pcr_pure _ | exact (pcr_crash _).mpr h
  · refine pcr_foldlM _ _ _ fun acc v hv => ?_
    rcases hsum rfl v hv with ⟨s, rfl⟩ | h
    · exact pcr_pure _
    · split <;> first | exact pcr_pure _ | exact (pcr_crash _).mpr h

theorem applyMethod_pcr (name : String) (recv : Val) (args : List Val)
    (hcat : name = "Cat" → ∀ v ∈ args, (∃ s, v = .str s) ∨ Ok "unreachable Cat arg") :
    PCr Ok (applyMethod name recv args) := by
  fun_cases applyMethod name recv args
  pcr_leaves []
  refine pcr_mapM _ _ fun v hv => ?_
  rcases hcat rfl v hv with ⟨s, rfl⟩ | h
  · exact pcr_pure _
  · split <;> first | exact pcr_pure _ | exact (pcr_crash _).mpr h

/-- promotion is only asked for when the right side is a float -/
theorem rightF_pcr (c : Val) (b : Bool) (h : (b && isFloatV c) = true) :
    PCr Ok (match (generalizing := false) c with
      | .float f => pure f
      | _ => crash "unreachable: promotion without float" : P UInt64) := by
  cases c <;> first | exact pcr_pure _ | simp [isFloatV] at h

/-- `"unreachable operator"`: the parser only builds `*`, `/`, `%` nodes -/
theorem evalMultiplicative_pcr (l1 l2 : Loc) (op : Tok) (a c : Val)
    (hop : (op = Tok.mul ∨ op = Tok.div ∨ op = Tok.mod) ∨ Ok "unreachable operator") :
    PCr Ok (evalMultiplicative l1 l2 op a c) := by
  fun_cases evalMultiplicative l1 l2 op a c
  pcr_leaves [toInt_pcr, toUint_pcr, toFloat_pcr]
  any_goals exact fun h => rightF_pcr _ _ h
  rcases hop with (rfl | rfl | rfl) | h
  · exact absurd rfl ‹¬(Tok.mul == Tok.mul) = true›
  · exact absurd rfl ‹¬(Tok.div == Tok.div) = true›
  · exact absurd rfl ‹¬(Tok.mod == Tok.mod) = true›
  · exact h

end JetVerif.Eval
