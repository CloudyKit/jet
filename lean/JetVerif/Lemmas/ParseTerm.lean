/-
  The parser model always ends within the fuel `Set.parse`'s model gives it (`fuelFor`; concluded in Props/C02L.lean).

  Measure: `mu s` = the items still in the lexer's channel plus the pushed-back items that are not
  error items (what a receive from the closed channel yields is an error item: pushing it back and
  reading it again goes on for ever only if somebody keeps asking, and nobody does - every production
  that reads an error item fails).  Every production is shown (Lemmas/ParseTermProd.lean), for every
  ceiling `M` on the measure at its start and every fuel `n ≥ rank + 40·M`, not to run out of fuel and to
  leave a state whose measure is again at most `M` - at most `M - 1` where the production consumes (an
  operand, an expression, a statement).  Ranks order the productions along the calls that consume nothing
  (`expression → … → unaryExpression → operand → term`); a call made after something was consumed
  may go to any rank, because 40 is more than the highest rank (`TermL.call`).  Inside the proof of a
  production the ceiling stays what it is and `A M c` counts what was spent of it; a bound stated for every
  ceiling with nothing spent applies, after `c` were spent, at the ceiling `M - c` (`TermL.spent`).  After
  every `next` the proof carries "a `backup` at this point is paid for" (`Bk`, in `AfterNext`), which is what
  the peek / `backup` / `backup2` patterns of parse.go need.

  `TermL` is the triple of Lemmas/ParseHoare.lean with the verdict "anything but running out of fuel";
  crashes and errors are none of its business (Lemmas/ParseNoCrash.lean).
-/
import JetVerif.Lemmas.ParseSafe

namespace JetVerif.Parse

/-- `m` started in a state satisfying `P` does not run out of fuel, and where it succeeds `Q` holds -/
def TermL {α} (P : PSt → Prop) (m : PM α) (Q : α → PSt → Prop) : Prop :=
  ∀ s, P s → match m s with
    | .ok a s' => Q a s'
    | .fuel => False
    | _ => True

/-- `TermL` is the triple of Lemmas/ParseHoare.lean with this verdict -/
def termV : Verdict := ⟨fun _ => True, True, False⟩

theorem termL_iff {α} {P : PSt → Prop} {m : PM α} {Q : α → PSt → Prop} : TermL P m Q ↔ Hoare termV P m Q :=
  forall₂_congr fun s _ => by unfold PRes.Sat; cases m s <;> exact Iff.rfl

theorem TermL.h {α} {P : PSt → Prop} {m : PM α} {Q : α → PSt → Prop} (h : TermL P m Q) : Hoare termV P m Q :=
  termL_iff.1 h
theorem Hoare.term {α} {P : PSt → Prop} {m : PM α} {Q : α → PSt → Prop} (h : Hoare termV P m Q) : TermL P m Q :=
  termL_iff.2 h

theorem TermL.bind {α β} {P : PSt → Prop} {m : PM α} {Q : α → PSt → Prop} {f : α → PM β} {R : β → PSt → Prop}
    (hm : TermL P m Q) (hf : ∀ a, TermL (Q a) (f a) R) : TermL P (m >>= f) R :=
  (hm.h.bind fun a => (hf a).h).term

theorem TermL.pure {α} {P : PSt → Prop} {Q : α → PSt → Prop} (a : α) (h : ∀ s, P s → Q a s) :
    TermL P (pure a : PM α) Q := h

theorem TermL.skip {α} {P : PSt → Prop} {a : α} : TermL P (Pure.pure a : PM α) (fun _ s => P s) := fun _ h => h

theorem TermL.weaken {α} {P P' : PSt → Prop} {m : PM α} {Q Q' : α → PSt → Prop}
    (h : TermL P m Q) (hp : ∀ s, P' s → P s) (hq : ∀ a s, Q a s → Q' a s) : TermL P' m Q' :=
  (h.h.weaken hp hq).term

theorem TermL.pre {α} {P P' : PSt → Prop} {m : PM α} {Q : α → PSt → Prop}
    (h : TermL P m Q) (hp : ∀ s, P' s → P s) : TermL P' m Q := h.weaken hp (fun _ _ h => h)

theorem TermL.post {α} {P : PSt → Prop} {m : PM α} {Q Q' : α → PSt → Prop}
    (h : TermL P m Q) (hq : ∀ a s, Q a s → Q' a s) : TermL P m Q' := h.weaken (fun _ h => h) hq

theorem TermL.ite {α} {P : PSt → Prop} {c : Prop} [Decidable c] {m1 m2 : PM α} {Q : α → PSt → Prop}
    (h1 : c → TermL P m1 Q) (h2 : ¬ c → TermL P m2 Q) : TermL P (if c then m1 else m2) Q :=
  (Hoare.ite (fun hc => (h1 hc).h) fun hc => (h2 hc).h).term

theorem TermL.unsupported {α} {P : PSt → Prop} {Q : α → PSt → Prop} (w : String) :
    TermL P (unsupported w : PM α) Q := fun _ _ => trivial

theorem TermL.crash {α} {P : PSt → Prop} {Q : α → PSt → Prop} (w : String) :
    TermL P (crash w : PM α) Q := fun _ _ => trivial

theorem TermL.assume {α} {P : PSt → Prop} {m : PM α} {Q : α → PSt → Prop} (φ : Prop)
    (h1 : ∀ s, P s → φ) (h2 : φ → TermL P m Q) : TermL P m Q := fun s hs => h2 (h1 s hs) s hs

theorem TermL.get {P : PSt → Prop} : TermL P get (fun a s => a = s ∧ P s) := fun _ hs => ⟨rfl, hs⟩

/-- an error item weighs nothing: the closed channel hands them out for ever -/
def wt (t : Item) : Nat := if t.typ = Tok.error then 0 else 1

theorem wt_le (t : Item) : wt t ≤ 1 := by unfold wt; split <;> omega
theorem wt_pos {t : Item} (h : t.typ ≠ Tok.error) : wt t = 1 := by simp [wt, h]
theorem wt_zero {t : Item} (h : t.typ = Tok.error) : wt t = 0 := by simp [wt, h]

/-- weight of the pushed-back items -/
def bufW (s : PSt) : Nat :=
  match s.peekCount with
  | 0 => 0
  | 1 => wt s.t0
  | 2 => wt s.t0 + wt s.t1
  | _ => wt s.t0 + wt s.t1 + wt s.t2

def mu (s : PSt) : Nat := s.toks.length + bufW s

/-- `c` of the `M` are spent: at most `M - c` left -/
def A (M c : Nat) (s : PSt) : Prop := mu s + c ≤ M
/-- a `backup` now leaves at most `M - c` -/
def Bk (M c : Nat) (s : PSt) : Prop := mu s + wt (under s) + c ≤ M

theorem A.bk {M c : Nat} {s : PSt} (h : A M (c + 1) s) : Bk M c s := by
  have := wt_le (under s); unfold A at h; unfold Bk; omega

theorem Bk.a {M c : Nat} {s : PSt} (h : Bk M c s) : A M c s := by unfold Bk at h; unfold A; omega

theorem A.le {M c c' : Nat} {s : PSt} (h : A M c s) (hc : c' ≤ c := by decide) : A M c' s := by unfold A at *; omega

theorem lineNumber_T {P : PSt → Prop} : TermL P lineNumber (fun _ s => P s) := fun s hs => by
  unfold lineNumber
  cases Lex.slice s.input 0 s.lastPos <;> first | exact hs | trivial

theorem mayFail_term (P : PSt → Prop) : MayFail termV P := fun s _ => by unfold lineNumber; split <;> trivial

theorem errorf_T {α} {P : PSt → Prop} {ps : List MP} {Q : α → PSt → Prop} : TermL P (errorf ps : PM α) Q :=
  (Hoare.errorf (mayFail_term P) ps).term

theorem unexpected_T {α} {P : PSt → Prop} {tk : Item} {c e : String} {Q : α → PSt → Prop} :
    TermL P (unexpected tk c e : PM α) Q := (Hoare.unexpected (mayFail_term P) tk c e).term

/-- what `next` leaves when it has returned `t`: a `backup` is paid for, and it would push `t` back -/
structure AfterNext (M c : Nat) (t : Item) (s : PSt) : Prop where
  bk : Bk M c s
  under : under s = t

/-- a non-error item was consumed -/
theorem AfterNext.a1 {M c : Nat} {t : Item} {s : PSt} (h : AfterNext M c t s) (hne : t.typ ≠ Tok.error) : A M (c + 1) s := by
  have := wt_pos hne; have hb := h.bk; unfold Bk at hb; unfold A; rw [h.under] at hb; omega

/-- an item received weighs at most the one item it takes from the channel: the closed channel gives `Item.zero`, and
    the zero value of an item type is `itemError` -/
theorem recv_le (s : PSt) : (recv s).toks.length + wt (recv s).t0 ≤ s.toks.length := by
  unfold recv; cases s.toks
  · simp [wt, Item.zero]
  · have := wt_le ‹Item›; simp; omega

theorem bufW_pop (s : PSt) (h : s.peekCount ≠ 0) (h3 : s.peekCount ≤ 3) :
    bufW { s with peekCount := s.peekCount - 1 } + wt (slotAt s (s.peekCount - 1)) = bufW s := by
  obtain ⟨k, hk⟩ : ∃ k, s.peekCount = k + 1 := ⟨s.peekCount - 1, by omega⟩
  unfold bufW slotAt; simp only [hk]
  match k with
  | 0 | 1 | 2 => simp <;> omega
  | k + 3 => omega

theorem bufW_push (s : PSt) : bufW { s with peekCount := s.peekCount + 1 } ≤ bufW s + wt (under s) := by
  unfold bufW under slotAt
  match s.peekCount with
  | 0 | 1 | 2 => simp
  | k + 3 => simp

variable {M c : Nat}

theorem next_T : TermL (A M c) next (AfterNext M c) := by
  intro s hs
  unfold A mu at hs
  rw [next_eq]
  by_cases h : s.peekCount = 0
  · rw [if_pos h]
    have := recv_le s
    refine ⟨?_, by simp [under, slotAt, recv, h]⟩
    simp only [bufW, h] at hs
    simp [Bk, mu, bufW, under, slotAt, recv, h] at this ⊢; omega
  · by_cases h3 : s.peekCount ≤ 3
    · rw [if_neg h, if_pos h3]
      have := bufW_pop s h h3
      exact ⟨by show s.toks.length + bufW _ + wt (slotAt s (s.peekCount - 1)) + c ≤ M; omega, rfl⟩
    · rw [if_neg h, if_neg h3]; trivial

theorem backup_T : TermL (Bk M c) backup (fun _ s => A M c s) := by
  intro s hs
  have := bufW_push s
  unfold Bk mu at hs
  show s.toks.length + bufW { s with peekCount := s.peekCount + 1 } + c ≤ M
  omega

/-- the items not yet received plus the pushed-back ones, error items included: what bounds a loop
    that only reads -/
def nu (s : PSt) : Nat := s.toks.length + s.peekCount

theorem next_nu (s : PSt) (t : Item) (s' : PSt) (h : next s = .ok t s') (hsp : t.typ = Tok.space) :
    nu s' + 1 = nu s := by
  rw [next_eq] at h
  split at h
  · cases h; cases ht : s.toks <;> simp_all [recv, nu, Item.zero]
  · split at h <;> cases h; simp [nu]; omega

theorem nextNonSpaceLoop_T : ∀ (k : Nat), TermL (fun s => A M c s ∧ nu s < k) (nextNonSpaceLoop k) (AfterNext M c)
  | 0 => fun _ hs => by have := hs.2; omega
  | k + 1 => by
    unfold nextNonSpaceLoop
    -- a space item read brings the loop's own bound down
    refine TermL.bind (Q := fun t s => AfterNext M c t s ∧ (t.typ = Tok.space → nu s < k)) (fun s hs => ?_) fun t =>
      TermL.ite (fun hsp => (nextNonSpaceLoop_T k).pre fun _ h => ⟨h.1.bk.a, h.2 hsp⟩) fun _ => TermL.pure _ fun _ h => h.1
    have hn := next_T s hs.1
    cases hnx : next s with
    | ok t s1 => rw [hnx] at hn; exact ⟨hn, fun hsp => by have := next_nu s t s1 hnx hsp; have := hs.2; omega⟩
    | fuel => rw [hnx] at hn; exact hn
    | _ => trivial

theorem nextNonSpace_T : TermL (A M c) nextNonSpace (AfterNext M c) := by
  intro s hs
  unfold nextNonSpace
  exact nextNonSpaceLoop_T (s.toks.length + s.peekCount + 2) s ⟨hs, by unfold nu; omega⟩

/-- after a peek: something is pushed back, and it is the item that was returned -/
def Peeked (M c : Nat) (pk : Item) (s : PSt) : Prop := A M c s ∧ OnTop pk s

theorem backup_after_next_T (tk : Item) : TermL (AfterNext M c tk) backup (fun _ s => Peeked M c tk s) :=
  fun s hs => ⟨backup_T s hs.bk, Nat.le_add_left 1 _, hs.under.symm⟩

theorem peekNonSpace_T : TermL (A M c) peekNonSpace (Peeked M c) :=
  (Hoare.peekNonSpace nextNonSpace_T.h fun tk => (backup_after_next_T tk).h).term

theorem peek_T : TermL (A M c) peek (Peeked M c) := by
  intro s hs
  rw [peek_eq]
  by_cases h : s.peekCount = 0
  · rw [if_pos h]
    have := recv_le s
    unfold A mu at hs; simp only [bufW, h] at hs
    exact ⟨by simp [A, mu, bufW, recv] at this ⊢; omega, Nat.le_refl 1, rfl⟩
  · by_cases h3 : s.peekCount ≤ 3
    · rw [if_neg h, if_pos h3]; exact ⟨hs, by omega, rfl⟩
    · rw [if_neg h, if_neg h3]; trivial

/-- the two peeks where what was seen does not matter afterwards -/
theorem pns_T : TermL (A M c) peekNonSpace (fun _ s => A M c s) := peekNonSpace_T.post fun _ _ h => h.1
theorem pk_T : TermL (A M c) peek (fun _ s => A M c s) := peek_T.post fun _ _ h => h.1

theorem next_after_peek_T {pk : Item} {ty : Tok} (h : pk.typ = ty) (hty : ty ≠ Tok.error := by decide) :
    TermL (Peeked M c pk) next (fun _ s => A M (c + 1) s) := by
  have hne : pk.typ ≠ Tok.error := h ▸ hty
  intro s ⟨h0, ht⟩
  have hn := next_T s h0
  by_cases h3 : s.peekCount ≤ 3
  · rw [next_onTop ht h3] at hn ⊢; exact hn.a1 hne
  · rw [next_eq, if_neg (by have := ht.1; omega), if_neg h3]; trivial

/-- `backup2 nx` after `nx` and one more item were read: both are paid for -/
theorem backup2_T (nx : Item) : TermL (Bk M (c + 1)) (backup2 nx) (fun _ s => A M c s) := by
  intro s hs
  unfold Bk under mu bufW at hs
  simp only [backup2, modify]
  unfold A mu bufW
  have := wt_le nx
  match hp : s.peekCount with
  | 0 => simp [hp, slotAt] at hs ⊢; omega
  | 1 => simp [hp, slotAt] at hs ⊢; omega
  | 2 => simp [hp, slotAt] at hs ⊢; omega
  | k + 3 => simp [hp] at hs ⊢; omega

theorem expect_T {ty : Tok} {ctx e : String} (hty : ty ≠ Tok.error := by decide) :
    TermL (A M c) (expect ty ctx e) (fun _ s => A M (c + 1) s) :=
  ((Hoare.expect ty ctx e nextNonSpace_T.h fun _ => mayFail_term _).post fun _ _ h => h.1.a1 (h.2 ▸ hty)).term

theorem expectRD_T {ctx : String} : TermL (A M c) (expectRightDelim ctx) (fun _ s => A M (c + 1) s) :=
  expect_T

theorem expectOneOf_T {t1 t2 : Tok} {ctx e : String} (h1 : t1 ≠ Tok.error := by decide) (h2 : t2 ≠ Tok.error := by decide) :
    TermL (A M c) (expectOneOf t1 t2 ctx e) (fun _ s => A M (c + 1) s) :=
  ((Hoare.expectOneOf t1 t2 ctx e nextNonSpace_T.h fun _ => mayFail_term _).post fun _ _ h =>
    h.1.a1 (h.2.elim (· ▸ h1) (· ▸ h2))).term

theorem expectString_T {cfg : Cfg} {ctx : String} : TermL (A M c) (expectString cfg ctx) (fun _ s => A M (c + 1) s) :=
  ((Hoare.expectString cfg ctx nextNonSpace_T.h fun _ => mayFail_term _).post fun _ _ ⟨_, h, ht⟩ =>
    h.a1 (ht.elim (· ▸ by decide) (· ▸ by decide))).term

theorem fieldNames_T {P : PSt → Prop} {v : Bytes} : TermL P (fieldNames v) (fun _ s => P s) := by
  unfold fieldNames
  split
  · exact TermL.crash _
  · exact TermL.skip

theorem chainAdd_T {P : PSt → Prop} {fields : List Bytes} {v : Bytes} : TermL P (chainAdd fields v) (fun _ s => P s) := by
  unfold chainAdd
  split
  · exact TermL.ite (fun _ => TermL.crash _) fun _ => TermL.skip
  · exact TermL.crash _

theorem modify_T (f : PSt → PSt) (hf : ∀ s, mu (f s) = mu s) : TermL (A M c) (modify f) (fun _ s => A M c s) :=
  fun s hs => by unfold A at hs; simp only [modify, A, hf]; exact hs

theorem registerBlock_T (name : Bytes) (b : PStmt) : TermL (A M c) (registerBlock name b) (fun _ s => A M c s) :=
  modify_T _ fun _ => by split <;> rfl

/-- the item `next` has just returned is of a type `ty` other than `itemError`: it was consumed -/
theorem TermL.consumed {α} {m : PM α} {Q : α → PSt → Prop} {tk : Item} {ty : Tok} (h : tk.typ = ty)
    (hm : TermL (A M (c + 1)) m Q) (hty : ty ≠ Tok.error := by decide) : TermL (AfterNext M c tk) m Q :=
  hm.pre fun _ hs => hs.a1 (h ▸ hty)

/-- What holds under every ceiling holds, after `c` items were spent, under the ceiling `M - c`; `φ` is the
    condition on the fuel. -/
theorem TermL.spent {α} {m : PM α} {φ : Nat → Prop} {c0 : Nat}
    (h : ∀ M, φ M → TermL (A M 0) m (fun _ s => A M c0 s)) (hφ : c ≤ M → φ (M - c)) :
    TermL (A M c) m (fun _ s => A M (c + c0) s) := fun s hs => by
  have hc : c ≤ M := by unfold A at hs; omega
  exact (h (M - c) (hφ hc)).weaken (fun _ h => by unfold A at *; omega) (fun _ _ h => by unfold A at *; omega) s hs

/-- A production of rank `r` running on fuel `n + 1` calls, on fuel `n`, a production of rank `r'`: one of lower rank
    at any time, any other once something was spent (no rank reaches 40). -/
theorem TermL.call {α} {m : PM α} {r r' n c0 : Nat} (hn : r + 40 * M ≤ n + 1)
    (h : ∀ M, r' + 40 * M ≤ n → TermL (A M 0) m (fun _ s => A M c0 s)) (hr : r' < r + 40 * c := by decide) :
    TermL (A M c) m (fun _ s => A M (c + c0) s) :=
  TermL.spent h fun _ => by omega

end JetVerif.Parse
