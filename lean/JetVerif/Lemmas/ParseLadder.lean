/-
  The precedence ladder: by mutual structural recursion over the stratified grammar, each
  production of the parser model maps the spelling of a derivation of its level to the promised
  tree and stops at the first item that does not belong to the level.  A chain level is stated as a prefix lemma
  (`Ladder2` … `Ladder6`, which unfold to `Level.Chain` at the five levels): reading the chain so far is being in the level's loop with the
  left-folded tree, so that left associativity is an induction on the chain (`Level.chain_more`) and the loop is left only
  once (`Level.chain_finish`: `finish2` … `finish6`).
-/
import JetVerif.Lemmas.ParseLadderBase

namespace JetVerif.Parse
open JetVerif.ExprGrammar

variable (cfg : Cfg)

@[reducible] def Ladder2 (c : E2) : Prop := ∀ (k : Nat) (ctx : String) (s b : PSt) (u : Item) (rest : List Item),
    k + it2 c + 1 ≥ 10 * sz2 c → noPostfix u → Starts s b (toks2 c ++ u :: rest) →
    multiplicativeExpression cfg (k + it2 c + 1) ctx s = multiplicativeLoop cfg k ctx (tree2 c) u (mkS b rest u 0)
@[reducible] def Ladder3 (c : E3) : Prop := ∀ (k : Nat) (ctx : String) (s b : PSt) (u : Item) (rest : List Item),
    k + it3 c + 1 ≥ 10 * sz3 c → stop2 u → Starts s b (toks3 c ++ u :: rest) →
    additiveExpression cfg (k + it3 c + 1) ctx s = additiveLoop cfg k ctx (tree3 c) u (mkS b rest u 0)
@[reducible] def Ladder4 (c : E4) : Prop := ∀ (k : Nat) (ctx : String) (s b : PSt) (u : Item) (rest : List Item),
    k + it4 c + 1 ≥ 10 * sz4 c → stop3 u → Starts s b (toks4 c ++ u :: rest) →
    numericComparativeExpression cfg (k + it4 c + 1) ctx s = numericComparativeLoop cfg k ctx (tree4 c) u (mkS b rest u 0)
@[reducible] def Ladder5 (c : E5) : Prop := ∀ (k : Nat) (ctx : String) (s b : PSt) (u : Item) (rest : List Item),
    k + it5 c + 1 ≥ 10 * sz5 c → stop4 u → Starts s b (toks5 c ++ u :: rest) →
    comparativeExpression cfg (k + it5 c + 1) ctx s = comparativeLoop cfg k ctx (tree5 c) u (mkS b rest u 0)
@[reducible] def Ladder6 (c : E6) : Prop := ∀ (k : Nat) (ctx : String) (s b : PSt) (u : Item) (rest : List Item),
    k + it6 c + 1 ≥ 10 * sz6 c → stop5 u → Starts s b (toks6 c ++ u :: rest) →
    logicalExpression cfg (k + it6 c + 1) ctx s = logicalLoop cfg k ctx (tree6 c) u (mkS b rest u 0)

theorem finish2 (c : E2) (H : Ladder2 cfg c) : Reads (multiplicativeExpression cfg) stop2 (toks2 c) (tree2 c) (sz2 c) :=
  (mulLevel cfg).chain_finish H (it2_le c) (fun _ h => h)

theorem finish3 (c : E3) (H : Ladder3 cfg c) : Reads (additiveExpression cfg) stop3 (toks3 c) (tree3 c) (sz3 c) :=
  (addLevel cfg).chain_finish H (it3_le c) (fun _ h => ⟨h.1, not_or.mpr h.2⟩)

theorem finish4 (c : E4) (H : Ladder4 cfg c) : Reads (numericComparativeExpression cfg) stop4 (toks4 c) (tree4 c) (sz4 c) :=
  (relLevel cfg).chain_finish H (it4_le c) (fun _ h => h)

theorem finish5 (c : E5) (H : Ladder5 cfg c) : Reads (comparativeExpression cfg) stop5 (toks5 c) (tree5 c) (sz5 c) :=
  (eqLevel cfg).chain_finish H (it5_le c) (fun _ h => ⟨h.1, not_or.mpr h.2⟩)

theorem finish6 (c : E6) (H : Ladder6 cfg c) : Reads (logicalExpression cfg) stop6 (toks6 c) (tree6 c) (sz6 c) :=
  (logLevel cfg).chain_finish H (it6_le c) (fun _ h => ⟨h.1, not_or.mpr h.2⟩)

mutual

theorem ladder0 : (e : E0) → ∀ (n : Nat) (ctx : String) (s b : PSt) (u : Item) (rest : List Item),
    n ≥ 10 * sz0 e → noPostfix u → Starts s b (toks0 e ++ u :: rest) →
    operand cfg n ctx s = .ok (tree0 e) (mkS b rest u 1)
  | .atom name => by
    intro n ctx s b u rest hn hu ⟨t, ts, hl, hnx⟩
    simp only [sz0] at hn
    obtain ⟨rfl, rfl⟩ : it Tok.identifier name = t ∧ u :: rest = ts := by simpa [toks0] using hl
    obtain ⟨m, rfl⟩ : ∃ m, n = m + 2 := ⟨n - 2, by omega⟩
    rw [operand, term]
    simp [bind_apply, hnx, tree0]
    exact operandReset_plain cfg m b _ u rest _ hu
  | .paren e => by
    intro n ctx s b u rest hn hu ⟨t, ts, hl, hnx⟩
    simp only [sz0] at hn
    obtain ⟨rfl, rfl⟩ : it Tok.leftParen [40] = t ∧ toks7 e ++ it Tok.rightParen [41] :: u :: rest = ts := by
      simpa [toks0] using hl
    obtain ⟨m, rfl⟩ : ∃ m, n = m + 4 := ⟨n - 4, by omega⟩
    have h7 := ladder7 e (m + 1) "parenthesized expression" _ b (it Tok.rightParen [41]) (u :: rest)
      (by omega) (stop7_it _ _ (by decide)) ((ehead7 e).starts b (it Tok.leftParen [40]) _)
    rw [operand, term, expression]
    simp [bind_apply, hnx, h7, tree0]
    exact operandReset_plain cfg (m + 2) b _ u rest _ hu

theorem ladder1 : (e : E1) → ∀ (n : Nat) (ctx : String) (s b : PSt) (u : Item) (rest : List Item),
    n ≥ 10 * sz1 e → noPostfix u → Starts s b (toks1 e ++ u :: rest) →
    unaryExpression cfg n ctx s = .ok (tree1 e, u) (mkS b rest u 0)
  | .base e => by
    intro n ctx s b u rest hn hu ⟨t, ts, hl, hnx⟩
    simp only [sz1] at hn
    obtain ⟨m, rfl⟩ : ∃ m, n = m + 1 := ⟨n - 1, by omega⟩
    obtain ⟨t', ts', h0, hp0, hty⟩ := head0 e
    obtain ⟨rfl, rfl⟩ : t' = t ∧ ts' ++ u :: rest = ts := by simpa [toks1, h0] using hl
    have hsp : t'.typ ≠ Tok.space := by rcases hty with h | h <;> simp [h]
    have hop := ladder0 e m ctx (mkS b (ts' ++ u :: rest) t' 1) b u rest (by omega) hu
      (by simp only [h0]; exact starts_pushed b t' _ hsp)
    rw [unaryExpression]
    rcases hty with h | h <;> simp [bind_apply, hnx, h, hop, hu.2.1, tree1]
  | .sign op v e => by
    intro n ctx s b u rest hn hu ⟨t, ts, hl, hnx⟩
    simp only [sz1] at hn
    obtain ⟨m, rfl⟩ : ∃ m, n = m + 1 := ⟨n - 1, by omega⟩
    obtain ⟨rfl, rfl⟩ : it op.tok v = t ∧ toks0 e ++ u :: rest = ts := by simpa [toks1] using hl
    have hop := ladder0 e m "additive expression" _ b u rest
      (by omega) hu ((ehead0 e).starts b (it op.tok v) _)
    rw [unaryExpression]
    have h1 : op.tok ≠ Tok.not_ := by cases op <;> simp [AddOp.tok]
    simp [bind_apply, hnx, h1, (isAdd_addop op).symm, hop, hu.2.1, tree1]

theorem ladder2 : (c : E2) → Ladder2 cfg c
  | .one e => (mulLevel cfg).chain_one (ladder1 e)
  | .more l op v r => (mulLevel cfg).chain_more (ladder2 l) (it2_le l) (ladder1 r) (ehead1 r) (isMulT_mulop op)
      (noPostfix_mulop op v)

theorem ladder3 : (c : E3) → Ladder3 cfg c
  | .one e => (addLevel cfg).chain_one (finish2 cfg e (ladder2 e))
  | .more l op v r => (addLevel cfg).chain_more (ladder3 l) (it3_le l) (finish2 cfg r (ladder2 r)) (ehead2 r)
      (isAdd_addop op) (stop2_addop op v)

theorem ladder4 : (c : E4) → Ladder4 cfg c
  | .one e => (relLevel cfg).chain_one (finish3 cfg e (ladder3 e))
  | .more l op v r => (relLevel cfg).chain_more (ladder4 l) (it4_le l) (finish3 cfg r (ladder3 r)) (ehead3 r)
      (isRelT_relop op) (stop3_relop op v)

theorem ladder5 : (c : E5) → Ladder5 cfg c
  | .one e => (eqLevel cfg).chain_one (finish4 cfg e (ladder4 e))
  | .more l op v r => (eqLevel cfg).chain_more (ladder5 l) (it5_le l) (finish4 cfg r (ladder4 r)) (ehead4 r)
      (isEq_eqop op) (stop4_eqop op v)

theorem ladder5n : (x : E5n) → ∀ (n : Nat) (ctx : String) (s b : PSt) (u : Item) (rest : List Item),
    n ≥ 10 * sz5n x → stop5 u → Starts s b (toks5n x ++ u :: rest) →
    comparativeExpression cfg n ctx s = .ok (tree5n x, u) (mkS b rest u 0)
  | .plain e => fun n ctx s b u rest hn hu hs =>
    finish5 cfg e (ladder5 e) n ctx s b u rest (by simp only [sz5n] at hn; omega) hu hs
  | .not v e => by
    -- parse.go reads `!` in `unaryExpression`, which then calls `comparativeExpression` for the operand: the result
    -- comes back up through the four levels in between, each of which sees the stop item and does not loop (`single`)
    intro n ctx s b u rest hn hu ⟨t, ts, hl, hnx⟩
    simp only [sz5n] at hn
    obtain ⟨m, rfl⟩ : ∃ m, n = m + 5 := ⟨n - 5, by have := it5_le e; omega⟩
    obtain ⟨rfl, rfl⟩ : it Tok.not_ v = t ∧ toks5 e ++ u :: rest = ts := by simpa [toks5n] using hl
    have h5 := finish5 cfg e (ladder5 e) m ctx _ b u rest (by omega) hu
      ((ehead5 e).starts b (it Tok.not_ v) _)
    have hun : unaryExpression cfg (m + 1) ctx s = .ok (.not 1 (tree5 e), u) (mkS b rest u 0) := by
      rw [unaryExpression]; simp [bind_apply, hnx, h5]
    obtain ⟨⟨⟨⟨_, hmul⟩, hadd⟩, hrel⟩, heq⟩ := hu
    exact (eqLevel cfg).single ((relLevel cfg).single ((addLevel cfg).single ((mulLevel cfg).single hun hmul)
      (not_or.mpr hadd)) hrel) (not_or.mpr heq)

theorem ladder6 : (c : E6) → Ladder6 cfg c
  | .one e => (logLevel cfg).chain_one (ladder5n e)
  | .more l op v r => (logLevel cfg).chain_more (ladder6 l) (it6_le l) (ladder5n r) (ehead5n r) (isLog_logop op)
      (stop5_logop op v)

theorem ladder7 : (c : E7) → Reads (parseExpression cfg) stop7 (toks7 c) (tree7 c) (sz7 c)
  | .one e => by
    intro n ctx s b u rest hn hu hs
    simp only [sz7] at hn
    obtain ⟨m, rfl⟩ : ∃ m, n = m + 1 := ⟨n - 1, by omega⟩
    have h6 := finish6 cfg e (ladder6 e) m ctx s b u rest (by omega) hu.1 hs
    rw [parseExpression]
    simp [bind_apply, h6, hu.2, tree7]
  | .tern c a b' => by
    intro n ctx s b u rest hn hu hs
    simp only [sz7] at hn
    obtain ⟨m, rfl⟩ : ∃ m, n = m + 1 := ⟨n - 1, by omega⟩
    have hc := finish6 cfg c (ladder6 c) m ctx s b (it Tok.ternary [63]) (toks7 a ++ it Tok.colon [58] :: (toks7 b' ++ u :: rest))
      (by omega) (stop6_ternary _) (by simpa [toks7] using hs)
    have ha := ladder7 a m ctx _ b (it Tok.colon [58]) (toks7 b' ++ u :: rest) (by omega) (stop7_it _ _ (by decide))
      ((ehead7 a).starts b (it Tok.ternary [63]) _)
    have hb := ladder7 b' m ctx _ b u rest (by omega) hu ((ehead7 b').starts b (it Tok.colon [58]) _)
    rw [parseExpression]
    simp [bind_apply, hc, ha, hb, tree7]

end

end JetVerif.Parse
