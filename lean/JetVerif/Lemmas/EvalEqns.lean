/-
  Equations of the evaluator model (Model/Eval.lean): what a model function computes, each stated once
  and for every runtime, before any invariant is defined.  The monad (`bind_def`, `bind_ok` … along a
  known outcome, `bind_eq_ok`), what is demanded of an outcome (`Res.Sat`) and what each combinator that
  wraps a body hands down to it (`sat_bind`, `sat_deferred`, `sat_withCtxND`, …, `sat_executeTry`,
  `sat_execListGo_cons`), association lists, `resolveIndex` on the forms the properties speak of,
  `locateP`, the scope primitives (`newScope_sat`, `releaseScope_sat`, `setValue_cases`, `popScope_fields`,
  `lookupChain_some`, `resolve_rt`) with their crash messages `ScopeMsg`, `appendTo` and the printing
  primitives (`Emits`), `recoverFalse`, and what `execute` re-raises (`execute_crash`).  The invariants
  (Lemmas/EvalInv.lean `Good`, EvalScope.lean `Scoped`, EvalTotal.lean `Tot`) and the property files build on
  these.
-/
import JetVerif.Model.Eval

namespace JetVerif.Eval

theorem bind_def {α β} (m : M α) (f : α → M β) (rt : RT) :
    (m >>= f) rt = match m rt with
      | .ok a rt' => f a rt'
      | .err e rt' => .err e rt'
      | .crash s rt' => .crash s rt'
      | .fuel => .fuel
      | .unsupported w => .unsupported w := rfl

theorem bind_ok {α β} {m : M α} {f : α → M β} {rt rt1 : RT} {a : α} (h : m rt = .ok a rt1) :
    (m >>= f) rt = f a rt1 := by rw [bind_def, h]
theorem bind_err {α β} {m : M α} {f : α → M β} {rt rt1 : RT} {e : Err} (h : m rt = .err e rt1) :
    (m >>= f) rt = .err e rt1 := by rw [bind_def, h]
theorem bind_crash {α β} {m : M α} {f : α → M β} {rt rt1 : RT} {s : String} (h : m rt = .crash s rt1) :
    (m >>= f) rt = .crash s rt1 := by rw [bind_def, h]
theorem bind_fuel {α β} {m : M α} {f : α → M β} {rt : RT} (h : m rt = .fuel) :
    (m >>= f) rt = .fuel := by rw [bind_def, h]
theorem bind_unsupported {α β} {m : M α} {f : α → M β} {rt : RT} {w : String} (h : m rt = .unsupported w) :
    (m >>= f) rt = .unsupported w := by rw [bind_def, h]

theorem bind_eq_ok {α β} {m : M α} {f : α → M β} {rt rt' : RT} {b : β} :
    (m >>= f) rt = .ok b rt' ↔ ∃ a rt1, m rt = .ok a rt1 ∧ f a rt1 = .ok b rt' := by
  rw [bind_def]
  cases m rt with
  | ok a rt1 => exact ⟨fun h => ⟨a, rt1, rfl, h⟩, fun ⟨_, _, e, h⟩ => by cases e; exact h⟩
  | _ => simp

theorem P.bind_eq_ok {α β} (p : P α) (f : α → P β) (b : β) :
    (p >>= f) = .ok b ↔ ∃ x, p = .ok x ∧ f x = .ok b := by
  cases p <;> simp [bind, Except.bind]

theorem getRT_bind {α} (f : RT → M α) (rt : RT) : (getRT >>= f) rt = f rt rt := rfl

theorem pure_bind {α β} (a : α) (f : α → M β) : (pure a >>= f) = f a := rfl

theorem bind_assoc {α β γ} (m : M α) (f : α → M β) (g : β → M γ) :
    (m >>= f) >>= g = m >>= fun a => f a >>= g := by
  funext rt
  rw [bind_def, bind_def, bind_def]
  cases m rt <;> rfl

/-! ### what is demanded of an outcome
    The invariants (`Post`, `SPost`, `TPost`) demand something of each of the three outcomes that carry a
    runtime and nothing of the other two: they are `Res.Sat Q E C` for their `Q`, `E`, `C`, by unfolding.  A
    combinator that runs a body and patches the runtime it leaves is described once, by what it hands down to
    the body (`sat_bind`, `sat_deferred`, `sat_withCtxND`, …); a rule for an invariant is then `Res.Sat.mono`
    with one implication per outcome. -/

def Res.Sat {α} (Q : α → RT → Prop) (E : RT → Prop) (C : String → RT → Prop) : Res α → Prop
  | .ok a rt => Q a rt
  | .err _ rt => E rt
  | .crash s rt => C s rt
  | .fuel => True
  | .unsupported _ => True

section sat
variable {α β : Type} {Q Q' : α → RT → Prop} {E E' : RT → Prop} {C C' : String → RT → Prop} {rt : RT}

theorem Res.Sat.mono {r : Res α} (h : r.Sat Q E C) (ok : ∀ a rt', Q a rt' → Q' a rt') (err : ∀ rt', E rt' → E' rt')
    (crash : ∀ s rt', C s rt' → C' s rt') : r.Sat Q' E' C' := by
  cases r with
  | ok a rt' => exact ok a rt' h
  | err e rt' => exact err rt' h
  | crash s rt' => exact crash s rt' h
  | fuel => trivial
  | unsupported w => trivial

theorem sat_bind {m : M α} {f : α → M β} {Q : β → RT → Prop} :
    ((m >>= f) rt).Sat Q E C ↔ (m rt).Sat (fun a rt1 => (f a rt1).Sat Q E C) E C := by
  rw [bind_def]
  cases m rt <;> exact Iff.rfl

/-- a lifted helper leaves the runtime alone, whatever it returns -/
theorem sat_liftP {p : P α} (ok : ∀ a, p = .ok a → Q a rt) (err : E rt) (crash : ∀ s, p = .error (.crash s) → C s rt) :
    (liftP p rt).Sat Q E C := by
  unfold liftP
  cases p with
  | ok a => exact ok a rfl
  | error f =>
    cases f with
    | err e => exact err
    | crash s => exact crash s rfl
    | unsupported w => trivial

theorem sat_deferred {fin : RT → RT} {m : M α} :
    (deferred fin m rt).Sat Q E C ↔
      (m rt).Sat (fun a rt' => Q a (fin rt')) (fun rt' => E (fin rt')) (fun s rt' => C s (fin rt')) := by
  unfold deferred
  cases m rt <;> exact Iff.rfl

theorem sat_withCtxND {v : Val} {body : M α} :
    (withCtxND v body rt).Sat Q E C ↔
      (body { rt with ctx := v }).Sat (fun a rt' => Q a { rt' with ctx := rt.ctx }) E C := by
  unfold withCtxND
  cases body { rt with ctx := v } <;> exact Iff.rfl

theorem sat_withContentND {c : Option Closure} {body : M α} :
    (withContentND c body rt).Sat Q E C ↔
      (body { rt with content := c }).Sat (fun a rt' => Q a { rt' with content := rt.content }) E C := by
  unfold withContentND
  cases body { rt with content := c } <;> exact Iff.rfl

theorem sat_withScopeContentND {sc : List Nat} {ct : Option Closure} {body : M α} :
    (withScopeContentND sc ct body rt).Sat Q E C ↔
      (body { rt with scope := sc, content := ct }).Sat
        (fun a rt' => Q a { rt' with scope := rt.scope, content := rt.content }) E C := by
  unfold withScopeContentND
  cases body { rt with scope := sc, content := ct } <;> exact Iff.rfl

theorem sat_withScopeContentD {sc : List Nat} {ct : Option Closure} {body : M α} :
    (withScopeContentD sc ct body rt).Sat Q E C ↔
      (body { rt with scope := sc, content := ct }).Sat
        (fun a rt' => Q a { rt' with scope := rt.scope, content := rt.content })
        (fun rt' => E { rt' with scope := rt.scope, content := rt.content })
        (fun s rt' => C s { rt' with scope := rt.scope, content := rt.content }) := by
  unfold withScopeContentD
  cases body { rt with scope := sc, content := ct } <;> exact Iff.rfl

end sat

theorem alookup_aset {β} (k k' : Bytes) (v : β) (t : List (Bytes × β)) :
    alookup k (aset k' v t) = if k' = k then some v else alookup k t := by
  induction t with
  | nil => simp [aset, alookup]
  | cons hd tl ih =>
    obtain ⟨a, w⟩ := hd
    unfold aset
    by_cases h : a = k'
    · subst h
      by_cases hk : a = k <;> simp [alookup, hk]
    · simp only [h, if_false]
      by_cases hk : a = k
      · subst hk
        have : ¬ k' = a := fun e => h e.symm
        simp [alookup, this]
      · simp [alookup, hk, ih]

theorem alookup_mem {β} {k : Bytes} {v : β} : ∀ {t : List (Bytes × β)}, alookup k t = some v → (k, v) ∈ t
  | (k', w) :: rest, h => by
    unfold alookup at h
    split at h
    · next hk => cases h; rw [hk]; exact List.mem_cons_self
    · exact List.mem_cons_of_mem _ (alookup_mem h)

theorem mem_aset {β} {k : Bytes} {v : β} {p : Bytes × β} {t : List (Bytes × β)} (h : p ∈ aset k v t) :
    p = (k, v) ∨ p ∈ t := by
  induction t with
  | nil => simpa [aset] using h
  | cons hd tl ih =>
    rw [aset] at h
    split at h <;> simp only [List.mem_cons] at h ⊢
    · exact h.imp_right Or.inr
    · exact h.elim (fun h => Or.inr (Or.inl h)) fun h => (ih h).imp_right Or.inr

/-- **`a.b` is `a["b"]`**, whatever `a` is: `resolveIndex` looks at the index only through the key and
    the index value it computes from the two forms, and these coincide -/
theorem field_eq_index (v : Val) (k : Bytes) :
    resolveIndex v .invalid (some k) = resolveIndex v (.str k) none := rfl

theorem resolveIndex_smap (es : List (Bytes × Val)) (ifc nl : Bool) (k : Bytes) :
    resolveIndex (.smap es ifc nl) (.str k) none =
      match alookup k es with
      | some e => .ok (elemOut ifc e)
      | none => .ok .invalid := rfl

/-- a struct that is not reached through a pointer (so not addressable) -/
theorem resolveIndex_struct (tn : String) (fs : List (Bytes × Val)) (k : Bytes) :
    resolveIndex (.struct tn fs) (.str k) none =
      match methodByName tn false k with
      | some m => .ok (.method m (.struct tn fs))
      | none =>
        match alookup k fs with
        | some f => .ok f.indirectEface
        | none => errPlain "can't use as field name in struct (missing or unexported)" := rfl

theorem locateP_err {α} (loc : Loc) (e : Err) :
    locateP loc (.error (.err e) : P α) =
      if e.located then .error (.err e) else .error (.err { e with located := true, loc := loc }) := rfl

/-- `locateP` turns an error into an error and leaves everything else as it is -/
theorem locateP_cases {α} (loc : Loc) (p : P α) :
    locateP loc p = p ∨ ∃ e e', p = .error (.err e) ∧ locateP loc p = .error (.err e') := by
  cases p with
  | ok a => exact .inl rfl
  | error f =>
    cases f with
    | err e =>
      refine .inr ⟨e, if e.located then e else { e with located := true, loc := loc }, rfl, ?_⟩
      rw [locateP_err]
      cases e.located <;> rfl
    | crash m => exact .inl rfl
    | unsupported w => exact .inl rfl

theorem locateP_ok {α} (loc : Loc) (p : P α) (a : α) (h : locateP loc p = .ok a) : p = .ok a := by
  rcases locateP_cases loc p with e | ⟨_, _, _, e⟩ <;> rw [e] at h
  · exact h
  · cases h

/-- the crash messages of the scope primitives of Model/Eval.lean
    (`newScope`, `releaseScope`, `letVar`, `setBlocks`, `setValue`, `letGlobal`) -/
def ScopeMsg (m : String) : Prop :=
  m ∈ ["nil pointer dereference (newScope on nil scope)", "dangling scope",
       "nil pointer dereference (releaseScope on nil scope)", "nil pointer dereference",
       "assignment to entry in nil map", "unreachable"]

instance (m : String) : Decidable (ScopeMsg m) := by unfold ScopeMsg; infer_instance

theorem frameAt_of_lt (rt : RT) (id : Nat) (h : id < rt.frames.length) :
    ∃ f, frameAt rt id = some f ∧ f ∈ rt.frames := by
  refine ⟨rt.frames[id], ?_, List.getElem_mem h⟩
  unfold frameAt
  exact List.getElem?_eq_getElem h

theorem frameAt_mem {rt : RT} {id : Nat} {f : Frame} (h : frameAt rt id = some f) : f ∈ rt.frames :=
  List.mem_of_getElem? h

/-- what `lookupChain` finds is an allocated frame with a non-nil map: `setValue`'s two crash
    outcomes are unreachable from ANY runtime -/
theorem lookupChain_some (rt : RT) (name : Bytes) :
    ∀ (l : List Nat) (id : Nat) (v : Val), lookupChain rt name l = some (id, v) →
      ∃ f vs, frameAt rt id = some f ∧ f.vars = some vs := by
  intro l
  induction l with
  | nil => intro id v h; simp [lookupChain] at h
  | cons i rest ih =>
    intro id v h
    unfold lookupChain at h
    split at h
    · cases h
    · rename_i f hf
      split at h
      · rename_i vs hvs
        split at h
        · cases h; exact ⟨f, vs, hf, hvs⟩
        · exact ih id v h
      · exact ih id v h

/-- `setValue` has two outcomes: what `lookupChain` finds is an allocated frame with a variable map
    (`lookupChain_some`), so neither crash of `setValue` is reached -/
theorem setValue_cases (n : Bytes) (v : Val) (rt : RT) :
    (lookupChain rt n rt.scope = none ∧ setValue n v rt = .ok false rt) ∨
    ∃ id w f vs, lookupChain rt n rt.scope = some (id, w) ∧ frameAt rt id = some f ∧ f.vars = some vs ∧
      setValue n v rt = .ok true (setFrame rt id { f with vars := some (aset n v vs) }) := by
  unfold setValue
  cases hl : lookupChain rt n rt.scope with
  | none => exact .inl ⟨rfl, rfl⟩
  | some p =>
    obtain ⟨f, vs, hf, hvs⟩ := lookupChain_some rt n rt.scope p.1 p.2 hl
    simp only [hf, hvs]
    exact .inr ⟨p.1, p.2, f, vs, rfl, hf, hvs, rfl⟩

theorem letGlobalTarget_mem (rt : RT) :
    ∀ l : List Nat, l ≠ [] → ∃ id, letGlobalTarget rt l = some id ∧ id ∈ l := by
  intro l
  induction l with
  | nil => intro h; exact (h rfl).elim
  | cons a tl ih =>
    intro _
    cases tl with
    | nil => exact ⟨a, rfl, List.mem_cons_self⟩
    | cons p rest =>
      unfold letGlobalTarget
      split
      · split
        · obtain ⟨id, h1, h2⟩ := ih (by simp)
          exact ⟨id, h1, List.mem_cons_of_mem _ h2⟩
        · exact ⟨a, rfl, List.mem_cons_self⟩
      · exact ⟨a, rfl, List.mem_cons_self⟩

theorem resolve_rt (env : Env) (n : Bytes) (rt : RT) : ∃ o, resolve env n rt = .ok o rt := by
  unfold resolve
  split
  · exact ⟨_, rfl⟩
  · split
    · exact ⟨_, rfl⟩
    · split
      · exact ⟨_, rfl⟩
      · split <;> exact ⟨_, rfl⟩

/-- the fields no scope primitive writes that the invariants read (the chain and the frames are what they write) -/
def SameButScope (a b : RT) : Prop :=
  b.ctx = a.ctx ∧ b.content = a.content ∧ b.writer = a.writer ∧ b.nbufs = a.nbufs ∧ b.sink = a.sink

theorem newScope_sat (rt : RT) :
    (newScope rt).Sat (fun _ rt' => rt'.scope.tail = rt.scope ∧ SameButScope rt rt') (fun _ => False)
      (fun _ rt' => rt' = rt) := by
  unfold newScope
  split
  · rfl
  · split
    · rfl
    · exact ⟨rfl, rfl, rfl, rfl, rfl, rfl⟩

/-- what follows a `newScope` starts from a runtime that differs from the caller's in the chain (and the frames)
    only; when `newScope` panics nothing has happened -/
theorem sat_newScope_bind {α} {k : M α} {Q : α → RT → Prop} {E : RT → Prop} {C : String → RT → Prop} {rt : RT}
    (hk : ∀ rt1, rt1.scope.tail = rt.scope → SameButScope rt rt1 → (k rt1).Sat Q E C) (hc : ∀ s, C s rt) :
    ((newScope >>= fun _ => k) rt).Sat Q E C :=
  sat_bind.mpr <| Res.Sat.mono (newScope_sat rt) (fun _ rt1 h => hk rt1 h.1 h.2) (fun _ h => h.elim)
    (fun s _ h => h ▸ hc s)

theorem releaseScope_sat (rt : RT) :
    (releaseScope rt).Sat (fun _ rt' => rt'.scope = rt.scope.tail ∧ SameButScope rt rt') (fun _ => False)
      (fun _ rt' => rt' = rt) := by
  unfold releaseScope
  split
  · rfl
  · next h => exact ⟨by rw [h]; rfl, rfl, rfl, rfl, rfl, rfl⟩

theorem popScope_fields (rt : RT) :
    (popScope rt).scope = rt.scope.tail ∧ (popScope rt).frames = rt.frames ∧ SameButScope rt (popScope rt) := by
  unfold popScope
  cases h : rt.scope <;> simp [SameButScope, h]

theorem appendTo_sink_cur (rt : RT) (cs : List Chunk) (k : Nat) (hk : rt.writer.idx = some k) :
    (appendTo rt rt.writer cs).sink k = cs.reverse ++ rt.sink k := by simp [appendTo, hk]

/-- the fields that hold scopes: frames, chain and content closure (what `Scoped` and `Tot` read of a runtime) -/
def SameScopes (a b : RT) : Prop := b.frames = a.frames ∧ b.scope = a.scope ∧ b.content = a.content

theorem appendTo_same (rt : RT) (w : Wr) (cs : List Chunk) : SameScopes rt (appendTo rt w cs) := by
  unfold appendTo
  split <;> exact ⟨rfl, rfl, rfl⟩

theorem appendTo_writer (rt : RT) (w : Wr) (cs : List Chunk) : (appendTo rt w cs).writer = rt.writer := by
  unfold appendTo; cases w.idx <;> rfl

theorem appendTo_nil (rt : RT) (w : Wr) : appendTo rt w [] = rt := by
  unfold appendTo; cases w.idx <;> simp

theorem appendTo_appendTo (rt : RT) (w : Wr) (a b : List Chunk) :
    appendTo (appendTo rt w a) w b = appendTo rt w (a ++ b) := by
  unfold appendTo
  cases w.idx with
  | none => rfl
  | some k =>
    simp only [List.reverse_append, RT.mk.injEq, true_and, and_true]
    funext j
    by_cases h : j = k <;> simp [h]

/-- `m` appends to the current destination and changes nothing else, or fails before it has done anything -/
def Emits (m : M Unit) : Prop :=
  ∀ rt, (m rt).Sat (fun _ rt' => ∃ cs, rt' = appendTo rt rt.writer cs) (· = rt) (fun _ _ => False)

theorem writeLit_emits (b : Bytes) : Emits (writeLit b) := fun _ => ⟨_, rfl⟩

theorem printEscaped_emits (env : Env) (v : Val) : Emits (printEscaped env v) := by
  intro rt
  unfold printEscaped
  split
  · trivial
  · split
    · exact ⟨_, rfl⟩
    · split
      · trivial
      · exact ⟨_, rfl⟩

theorem printSafe_emits (sw : String) (v : Val) : Emits (printSafe sw v) := by
  intro rt
  unfold printSafe
  split
  · rfl
  · split
    · trivial
    · split
      · trivial
      · exact ⟨_, rfl⟩

/-- `m` leaves frames, chain and content alone and does not panic -/
def KeepsScopes {α} (m : M α) : Prop :=
  ∀ rt, (m rt).Sat (fun _ => SameScopes rt) (SameScopes rt) (fun _ _ => False)

theorem keepsScopes_of_reads {α} {m : M α} (h : ∀ rt, ∃ a, m rt = .ok a rt) : KeepsScopes m := fun rt => by
  obtain ⟨a, e⟩ := h rt
  rw [e]
  exact ⟨rfl, rfl, rfl⟩

theorem Emits.keepsScopes {m : M Unit} (h : Emits m) : KeepsScopes m := fun rt =>
  Res.Sat.mono (h rt) (fun _ _ ⟨cs, e⟩ => e ▸ appendTo_same rt _ cs) (fun _ e => e ▸ ⟨rfl, rfl, rfl⟩) (fun _ _ h => h)

/-- `recoverFalse` never fails: C17's "isset never fails" -/
theorem recoverFalse_total (m : M Bool) (rt : RT) :
    (∃ b rt', recoverFalse m rt = .ok b rt') ∨ recoverFalse m rt = .fuel ∨ ∃ w, recoverFalse m rt = .unsupported w := by
  unfold recoverFalse
  cases m rt with
  | ok a rt' => exact .inl ⟨a, rt', rfl⟩
  | err e rt' => exact .inl ⟨false, _, rfl⟩
  | crash s rt' => exact .inl ⟨false, _, rfl⟩
  | fuel => exact .inr (.inl rfl)
  | unsupported w => exact .inr (.inr ⟨w, rfl⟩)

theorem recoverFalse_liftP_true (p : P Bool) (rt : RT) :
    (∃ rt', recoverFalse (liftP p) rt = .ok true rt') ↔ p = .ok true := by
  rcases p with (_ | _ | _) | b <;> simp [recoverFalse, liftP]

section sat
variable {α : Type} {Q : α → RT → Prop} {E : RT → Prop} {C : String → RT → Prop} {rt : RT} {r : Rec} {env : Env}

theorem sat_recoverFalse {m : M Bool} {Q : Bool → RT → Prop} :
    (recoverFalse m rt).Sat Q E C ↔
      (m rt).Sat Q (fun rt' => Q false { rt' with scope := rt.scope, ctx := rt.ctx, content := rt.content })
        (fun _ rt' => Q false { rt' with scope := rt.scope, ctx := rt.ctx, content := rt.content }) := by
  unfold recoverFalse
  cases m rt <;> exact Iff.rfl

/-- `executeTry`: a body that succeeds has its buffer copied to the saved destination; after one that fails the
    catch clause runs from the reset runtime, whatever the error value -/
theorem sat_executeTry {body : List Stmt} {hasCatch : Bool} {cv : Option Bytes} {cb : Option (List Stmt)}
    {Q : Val → RT → Prop}
    (h : (r.execList env body (tryStart rt)).Sat
      (fun v rt' => Q v (appendTo { rt' with writer := rt.writer } rt.writer (rt'.sink (rt.nbufs + 1)).reverse))
      (fun rt' => ∀ errVal, (tryCatch r env hasCatch cv cb errVal (tryReset rt rt')).Sat Q E C)
      (fun _ rt' => ∀ errVal, (tryCatch r env hasCatch cv cb errVal (tryReset rt rt')).Sat Q E C)) :
    (executeTry r env body hasCatch cv cb rt).Sat Q E C := by
  unfold executeTry
  revert h
  cases r.execList env body (tryStart rt) <;> first | exact id | exact fun h => h _

/-- a statement that fails ends its list, whose deferred `releaseScope` runs if it was registered -/
theorem sat_execListGo_cons {s : Stmt} {rest : List Stmt} {rv : Val} {b : Bool} {Q : Val × Bool → RT → Prop} :
    (execListGo r env (s :: rest) rv b rt).Sat Q E C ↔
      (execStmt r env b s rt).Sat
        (fun x rt' => (execListGo r env rest
          (if isReturnStmt s then x.2.1 else if x.1.isValid then x.1 else rv) x.2.2 rt').Sat Q E C)
        (fun rt' => E (if b || stmtOpensLet s then popScope rt' else rt'))
        (fun m rt' => C m (if b || stmtOpensLet s then popScope rt' else rt')) := by
  rw [execListGo]
  dsimp only
  cases execStmt r env b s rt with
  | ok x rt' => obtain ⟨ret, rv2, ins⟩ := x; exact Iff.rfl
  | _ => exact Iff.rfl

theorem sat_execListF {l : List Stmt} {Q : Val → RT → Prop} :
    (execListF r env l rt).Sat Q E C ↔
      (execListGo r env l .invalid false rt).Sat (fun x rt' => Q x.1 (if x.2 then popScope rt' else rt')) E C := by
  unfold execListF
  cases execListGo r env l .invalid false rt <;> exact Iff.rfl

end sat

/-- `Execute` re-raises exactly the panics of the root body -/
theorem execute_crash {fuel : Nat} {env : Env} {t : Tmpl} {vars : List (Bytes × Val)} {data : Val}
    {msg : String} {out : List Chunk} (h : execute fuel env t vars data = .crash msg out) :
    ∃ root rt', rootOf env 64 t = some root ∧
      (recAt fuel).execList env root.root (initRT t vars data) = .crash msg rt' := by
  unfold execute at h
  split at h
  · cases h
  · rename_i root hroot
    split at h <;> cases h
    exact ⟨root, _, hroot, ‹_›⟩

end JetVerif.Eval
