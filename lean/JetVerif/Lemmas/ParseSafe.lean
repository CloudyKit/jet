/-
  The safety triple `SafeL` for the parser monad (an instance of the triple of Lemmas/ParseHoare.lean), the
  invariant `Inv` and the specifications of the token-buffer primitives, used by Lemmas/ParseNoCrash.lean
  to show that the parser model never reaches a `crash` outcome (index out of range on the three-slot
  buffer, slice out of range in `lineNumber`, `ChainNode.Add` / `newField` on a malformed field item).
  `next_eq` and `peek_eq` say exactly what the two buffer operations do; the termination pass
  (Lemmas/ParseTerm.lean) reads them too.
-/
import JetVerif.Lemmas.ParseHoare
import JetVerif.Lemmas.LexBytes

namespace JetVerif.Parse

/-- what the lexer guarantees about an item: its position lies inside the source, and a field
    item is a dot followed by at least one byte -/
def WfItem (inp : Bytes) (t : Item) : Prop :=
  0 ≤ t.pos ∧ t.pos ≤ inp.length ∧ (t.typ = Tok.field → ∃ c cs, t.val = 46 :: c :: cs)

theorem wfItem_zero (inp : Bytes) : WfItem inp Item.zero := by
  refine ⟨by simp [Item.zero], by simp [Item.zero], ?_⟩
  intro h; simp [Item.zero] at h

/-- the lexer sends the end-of-file item, if it sends one, as its last item (`lexText` returns
    `nil` right after emitting it, the goroutine then closes the channel) -/
def EofLast (toks : List Item) : Prop :=
  ∀ pre t post, toks = pre ++ t :: post → t.typ = Tok.eof → post = []

theorem EofLast.tail {t : Item} {ts : List Item} (h : EofLast (t :: ts)) : EofLast ts :=
  fun pre x post e hx => h (t :: pre) x post (by simp [e]) hx

theorem EofLast.head {t : Item} {ts : List Item} (h : EofLast (t :: ts)) (ht : t.typ = Tok.eof) : ts = [] :=
  h [] t ts rfl ht

theorem eofLast_nil : EofLast [] := by
  intro pre t post e _
  simp at e

/-- the form in which a concrete item list is checked: no item but the last is an end-of-file item -/
theorem eofLast_of_dropLast {toks : List Item} (h : ∀ t ∈ toks.dropLast, t.typ ≠ Tok.eof) : EofLast toks := by
  intro pre t post e ht
  cases post with
  | nil => rfl
  | cons p ps =>
    exfalso
    apply h t _ ht
    rw [e, List.dropLast_append_of_ne_nil (by simp)]
    simp [List.dropLast]

/-- once an end-of-file item sits in the look-ahead buffer, nothing is left in the channel -/
def EofOk (toks : List Item) (t0 t1 t2 : Item) : Prop :=
  EofLast toks ∧ (t0.typ = Tok.eof → toks = []) ∧ (t1.typ = Tok.eof → toks = []) ∧ (t2.typ = Tok.eof → toks = [])

structure Wf (inp : Bytes) (s : PSt) : Prop where
  input : s.input = inp
  toks : ∀ t ∈ s.toks, WfItem inp t
  t0 : WfItem inp s.t0
  t1 : WfItem inp s.t1
  t2 : WfItem inp s.t2
  last0 : 0 ≤ s.lastPos
  last1 : s.lastPos ≤ inp.length
  eof : EofOk s.toks s.t0 s.t1 s.t2

/-- well-formed state with at most `k` items pushed back -/
def Inv (inp : Bytes) (k : Nat) (s : PSt) : Prop := Wf inp s ∧ s.peekCount ≤ k

theorem Inv.mono {inp : Bytes} {k k' : Nat} {s : PSt} (h : Inv inp k s) (hk : k ≤ k') : Inv inp k' s :=
  ⟨h.1, Nat.le_trans h.2 hk⟩

def LineOk (inp : Bytes) (l : Nat) : Prop := 1 ≤ l ∧ l ≤ 1 + countNl inp

/-- `m` started in a state satisfying `P` does not crash; if it returns, `Q` holds; if it fails with
    an error, the line the error names satisfies `L` -/
def SafeL {α} (L : Nat → Prop) (P : PSt → Prop) (m : PM α) (Q : α → PSt → Prop) : Prop :=
  ∀ s, P s → match m s with
    | .ok a s' => Q a s'
    | .crash _ => False
    | .err l _ => L l
    | _ => True

/-- `SafeL` is the triple of Lemmas/ParseHoare.lean with this verdict -/
def safeV (L : Nat → Prop) : Verdict := ⟨L, False, True⟩

theorem safeL_iff {α} {L : Nat → Prop} {P : PSt → Prop} {m : PM α} {Q : α → PSt → Prop} :
    SafeL L P m Q ↔ Hoare (safeV L) P m Q :=
  forall₂_congr fun s _ => by unfold PRes.Sat; cases m s <;> exact Iff.rfl

section combinators
variable {L : Nat → Prop}

theorem SafeL.h {α} {P : PSt → Prop} {m : PM α} {Q : α → PSt → Prop} (h : SafeL L P m Q) : Hoare (safeV L) P m Q :=
  safeL_iff.1 h
theorem Hoare.safe {α} {P : PSt → Prop} {m : PM α} {Q : α → PSt → Prop} (h : Hoare (safeV L) P m Q) : SafeL L P m Q :=
  safeL_iff.2 h

theorem SafeL.bind {α β} {P : PSt → Prop} {m : PM α} {Q : α → PSt → Prop} {f : α → PM β} {R : β → PSt → Prop}
    (hm : SafeL L P m Q) (hf : ∀ a, SafeL L (Q a) (f a) R) : SafeL L P (m >>= f) R :=
  (hm.h.bind fun a => (hf a).h).safe

theorem SafeL.pure {α} {P : PSt → Prop} {Q : α → PSt → Prop} (a : α) (h : ∀ s, P s → Q a s) :
    SafeL L P (pure a : PM α) Q := h

theorem SafeL.skip {α} {P : PSt → Prop} {a : α} : SafeL L P (Pure.pure a : PM α) (fun _ s => P s) := fun _ h => h

theorem SafeL.weaken {α} {P P' : PSt → Prop} {m : PM α} {Q Q' : α → PSt → Prop}
    (h : SafeL L P m Q) (hp : ∀ s, P' s → P s) (hq : ∀ a s, Q a s → Q' a s) : SafeL L P' m Q' :=
  (h.h.weaken hp hq).safe

theorem SafeL.pre {α} {P P' : PSt → Prop} {m : PM α} {Q : α → PSt → Prop}
    (h : SafeL L P m Q) (hp : ∀ s, P' s → P s) : SafeL L P' m Q := h.weaken hp (fun _ _ h => h)

theorem SafeL.post {α} {P : PSt → Prop} {m : PM α} {Q Q' : α → PSt → Prop}
    (h : SafeL L P m Q) (hq : ∀ a s, Q a s → Q' a s) : SafeL L P m Q' := h.weaken (fun _ h => h) hq

theorem SafeL.ite {α} {P : PSt → Prop} {c : Prop} [Decidable c] {m1 m2 : PM α} {Q : α → PSt → Prop}
    (h1 : c → SafeL L P m1 Q) (h2 : ¬ c → SafeL L P m2 Q) : SafeL L P (if c then m1 else m2) Q :=
  (Hoare.ite (fun hc => (h1 hc).h) fun hc => (h2 hc).h).safe

theorem SafeL.outOfFuel {α} {P : PSt → Prop} {Q : α → PSt → Prop} : SafeL L P (outOfFuel : PM α) Q :=
  fun _ _ => trivial

theorem SafeL.unsupported {α} {P : PSt → Prop} {Q : α → PSt → Prop} (w : String) : SafeL L P (unsupported w : PM α) Q :=
  fun _ _ => trivial

theorem SafeL.assume {α} {P : PSt → Prop} {m : PM α} {Q : α → PSt → Prop} (φ : Prop)
    (h1 : ∀ s, P s → φ) (h2 : φ → SafeL L P m Q) : SafeL L P m Q := fun s hs => h2 (h1 s hs) s hs

end combinators

section
variable {L : Nat → Prop} {α β : Type} {P : PSt → Prop} {m : PM α} {Q : α → PSt → Prop} {f : α → PM β} {R : β → PSt → Prop}

/-- `bind` where the first computation also establishes a fact `φ` about the value it returns -/
theorem SafeL.bindF {φ : α → Prop} (hm : SafeL L P m (fun a s => Q a s ∧ φ a)) (hf : ∀ a, φ a → SafeL L (Q a) (f a) R) :
    SafeL L P (m >>= f) R :=
  hm.bind fun a => .assume (φ a) (fun _ h => h.2) fun ha => (hf a ha).pre fun _ h => h.1

variable {inp : Bytes} {j k : Nat}

/-- a state with fewer items pushed back is as good -/
theorem SafeL.mono (h : SafeL L (Inv inp j) m Q) (hk : k ≤ j := by decide) : SafeL L (Inv inp k) m Q :=
  h.pre fun _ h => h.mono hk

/-- the `bind` of the passes over the productions: what is called may allow more items pushed back than there are -/
theorem SafeL.bind_mono (hm : SafeL L (Inv inp j) m Q) (hf : ∀ a, SafeL L (Q a) (f a) R) (hk : k ≤ j := by decide) :
    SafeL L (Inv inp k) (m >>= f) R := (hm.mono hk).bind hf

end

theorem SafeL.and {α} {L : Nat → Prop} {P : PSt → Prop} {m : PM α} {Q1 Q2 : α → PSt → Prop}
    (h1 : SafeL L P m Q1) (h2 : SafeL L P m Q2) : SafeL L P m (fun a s => Q1 a s ∧ Q2 a s) := by
  intro s hs
  have a1 := h1 s hs
  have a2 := h2 s hs
  cases hm : m s with
  | ok a s' => rw [hm] at a1 a2; exact ⟨a1, a2⟩
  | _ => rw [hm] at a1; exact a1

theorem lineNumber_state (s : PSt) (a : Nat) (s' : PSt) (h : lineNumber s = .ok a s') : s' = s := by
  unfold lineNumber at h
  split at h <;> cases h
  rfl

theorem countNl_slice (inp : Bytes) (a b : Int) (pre : Bytes) (h : Lex.slice inp a b = some pre) :
    countNl pre ≤ countNl inp := by
  obtain ⟨-, -, -, rfl⟩ := Lex.slice_some h
  exact (((List.take_sublist _ _).trans (List.drop_sublist _ _)).filter _).length_le

theorem lineNumber_line {s s' : PSt} {l : Nat} (h : lineNumber s = .ok l s') : LineOk s.input l := by
  unfold lineNumber at h
  split at h
  · rename_i pre hpre
    cases h
    have := countNl_slice s.input 0 s.lastPos pre hpre
    exact ⟨by omega, by omega⟩
  · cases h

variable {inp : Bytes}
local notation "Safe" => SafeL (LineOk inp)

theorem lineNumber_keeps (k : Nat) (P : PSt → Prop) (hP : ∀ s, P s → Inv inp k s) : Safe P lineNumber (fun _ s => P s) := by
  intro s hs
  obtain ⟨w, _⟩ := hP s hs
  simp only [lineNumber, Lex.slice_eq (Int.le_refl 0) w.last0 (w.input ▸ w.last1)]
  exact hs

theorem lineNumber_safe (k : Nat) : Safe (Inv inp k) lineNumber (fun _ s => Inv inp k s) := lineNumber_keeps k _ fun _ h => h

theorem mayFail_safe (k : Nat) : MayFail (safeV (LineOk inp)) (Inv inp k) := fun s hs => by
  have := lineNumber_safe k s hs
  revert this
  cases h : lineNumber s <;> first | exact fun _ => hs.1.input ▸ lineNumber_line h | exact id

theorem errorf_safe {α} {k : Nat} {ps : List MP} {Q : α → PSt → Prop} :
    Safe (Inv inp k) (errorf ps : PM α) Q := (Hoare.errorf (mayFail_safe k) ps).safe

theorem unexpected_safe {α} {k : Nat} {tk : Item} {c e : String} {Q : α → PSt → Prop} :
    Safe (Inv inp k) (unexpected tk c e : PM α) Q := (Hoare.unexpected (mayFail_safe k) tk c e).safe

/-- the item `next` is going to return when something is pushed back -/
def slotAt (s : PSt) : Nat → Item
  | 0 => s.t0
  | 1 => s.t1
  | _ => s.t2

theorem slot_wf {inp : Bytes} {s : PSt} (w : Wf inp s) (i : Nat) : WfItem inp (slotAt s i) := by
  unfold slotAt
  split
  · exact w.t0
  · exact w.t1
  · exact w.t2

/-- the item a `backup` would push back: the one `next` returned last -/
def under (s : PSt) : Item := slotAt s s.peekCount

/-- `pk` is pushed back, and is what `next` and `peek` return -/
def OnTop (pk : Item) (s : PSt) : Prop := s.peekCount ≥ 1 ∧ pk = slotAt s (s.peekCount - 1)

/-- the state after an item was received into slot 0; the closed channel yields `Item.zero`, at position 0 -/
def recv (s : PSt) : PSt :=
  { s with toks := s.toks.tail, lastPos := (s.toks.headD Item.zero).pos, t0 := s.toks.headD Item.zero }

theorem nextItem_eq (s : PSt) : nextItem s =
    .ok (s.toks.headD Item.zero) { s with toks := s.toks.tail, lastPos := (s.toks.headD Item.zero).pos } := by
  unfold nextItem; cases s.toks <;> rfl

theorem next_eq (s : PSt) : next s =
    if s.peekCount = 0 then .ok (recv s).t0 (recv s)
    else if s.peekCount ≤ 3 then .ok (slotAt s (s.peekCount - 1)) { s with peekCount := s.peekCount - 1 }
    else .crash "index out of range" := by
  split
  · next h => simp [next, bind_apply, get, nextItem_eq, modify, tokenAt, h, recv]
  · next h =>
    obtain ⟨k, hk⟩ : ∃ k, s.peekCount = k + 1 := ⟨s.peekCount - 1, by omega⟩
    have : next s = tokenAt k { s with peekCount := k } := by simp [next, bind_apply, get, modify, hk]
    rw [this, hk]
    match k with
    | 0 | 1 | 2 => rfl
    | k + 3 => simp [tokenAt]

theorem peek_eq (s : PSt) : peek s =
    if s.peekCount = 0 then .ok (recv s).t0 { recv s with peekCount := 1 }
    else if s.peekCount ≤ 3 then .ok (slotAt s (s.peekCount - 1)) s
    else .crash "index out of range" := by
  split
  · next h => simp [peek, bind_apply, get, nextItem_eq, modify, h, recv]
  · next h =>
    obtain ⟨k, hk⟩ : ∃ k, s.peekCount = k + 1 := ⟨s.peekCount - 1, by omega⟩
    have : peek s = tokenAt k s := by simp [peek, bind_apply, get, hk]
    rw [this, hk]
    match k with
    | 0 | 1 | 2 => rfl
    | k + 3 => simp [tokenAt]

theorem next_onTop {pk : Item} {s : PSt} (h : OnTop pk s) (h3 : s.peekCount ≤ 3) :
    next s = .ok pk { s with peekCount := s.peekCount - 1 } := by
  rw [next_eq, if_neg (by have := h.1; omega), if_pos h3, h.2]

/-- the fields `Wf` reads -/
def PSt.buf (s : PSt) := (s.input, s.toks, s.t0, s.t1, s.t2, s.lastPos)

theorem Wf.congr {inp : Bytes} {s s' : PSt} (w : Wf inp s) (h : s'.buf = s.buf) : Wf inp s' := by
  cases s; cases s'; cases h
  exact ⟨w.input, w.toks, w.t0, w.t1, w.t2, w.last0, w.last1, w.eof⟩

theorem Wf.recv {inp : Bytes} {s : PSt} (w : Wf inp s) : Wf inp (recv s) := by
  have he := w.eof
  unfold Parse.recv
  cases ht : s.toks with
  | nil => rw [ht] at he; exact ⟨w.input, by simp, wfItem_zero inp, w.t1, w.t2, Int.le_refl 0, by simp [Item.zero], he.1, fun h => rfl, he.2.2⟩
  | cons t ts =>
    rw [ht] at he
    have wt : WfItem inp t := w.toks t (by simp [ht])
    have hne : ∀ x : Item, (x.typ = Tok.eof → t :: ts = []) → (x.typ = Tok.eof → ts = []) :=
      fun x h hx => by have := h hx; simp at this
    exact ⟨w.input, fun x hx => w.toks x (by rw [ht]; exact .tail _ hx), wt, w.t1, w.t2, wt.1, wt.2.1,
      he.1.tail, fun h => he.1.head h, hne _ he.2.2.1, hne _ he.2.2.2⟩

theorem next_safe :
    Safe (Inv inp 2) next (fun a s => Inv inp 1 s ∧ WfItem inp a ∧ a = under s) := by
  intro s ⟨w, hk⟩
  rw [next_eq]
  by_cases h : s.peekCount = 0
  · rw [if_pos h]; exact ⟨⟨w.recv, by show s.peekCount ≤ 1; omega⟩, w.recv.t0, by simp [recv, h, under, slotAt]⟩
  · rw [if_neg h, if_pos (by omega)]; exact ⟨⟨w.congr rfl, by show s.peekCount - 1 ≤ 1; omega⟩, slot_wf w _, rfl⟩

theorem backup_safe (k : Nat) : Safe (Inv inp k) backup (fun _ s => Inv inp (k + 1) s) :=
  fun _ ⟨w, hk⟩ => ⟨w.congr rfl, Nat.succ_le_succ hk⟩

/-- `backup` right after an item was returned from slot `peekCount`: that item is the one pushed back -/
theorem backup_safe_slot (k : Nat) (a : Item) :
    Safe (fun s => Inv inp k s ∧ a = under s) backup
      (fun _ s => Inv inp (k + 1) s ∧ OnTop a s) :=
  fun _ ⟨⟨w, hk⟩, ha⟩ => ⟨⟨w.congr rfl, Nat.succ_le_succ hk⟩, Nat.le_add_left 1 _, ha⟩

/-- `backup2 t` writes `t` into slot 1; an `itemEOF` there would claim that the channel is empty (`Wf.eof`) -/
theorem backup2_safe {t : Item} {ty : Tok} (ht : WfItem inp t) (h : t.typ = ty) (hty : ty ≠ Tok.eof := by decide) :
    Safe (Inv inp 2) (backup2 t) (fun _ s => Inv inp 2 s) :=
  fun _ ⟨w, _⟩ => ⟨⟨w.input, w.toks, w.t0, ht, w.t2, w.last0, w.last1,
    w.eof.1, w.eof.2.1, fun he => (hty (h ▸ he)).elim, w.eof.2.2.2⟩, Nat.le_refl 2⟩

theorem peek_safe (k : Nat) (hk : 1 ≤ k := by decide) (hk2 : k ≤ 2 := by decide) :
    Safe (Inv inp k) peek (fun a s => Inv inp k s ∧ WfItem inp a ∧ OnTop a s) := by
  intro s ⟨w, hpk⟩
  rw [peek_eq]
  by_cases h : s.peekCount = 0
  · rw [if_pos h]; exact ⟨⟨w.recv.congr rfl, hk⟩, w.recv.t0, Nat.le_refl 1, rfl⟩
  · rw [if_neg h, if_pos (by omega)]; exact ⟨⟨w, hpk⟩, slot_wf w _, by omega, rfl⟩

theorem nextNonSpaceLoop_safe : ∀ n, Safe (Inv inp 2) (nextNonSpaceLoop n)
    (fun a s => Inv inp 1 s ∧ WfItem inp a ∧ a = under s)
  | 0 => SafeL.outOfFuel
  | n + 1 => by
    unfold nextNonSpaceLoop
    refine SafeL.bind next_safe ?_
    intro tk
    refine SafeL.ite ?_ ?_
    · intro _
      exact (nextNonSpaceLoop_safe n).pre (fun s h => h.1.mono (by omega))
    · intro _
      exact SafeL.pure tk (fun s h => h)

theorem nextNonSpace_safe :
    Safe (Inv inp 2) nextNonSpace (fun a s => Inv inp 1 s ∧ WfItem inp a ∧ a = under s) := by
  intro s hs
  exact nextNonSpaceLoop_safe _ s hs

theorem peekNonSpace_safe :
    Safe (Inv inp 2) peekNonSpace
      (fun a s => Inv inp 2 s ∧ WfItem inp a ∧ OnTop a s) :=
  (Hoare.peekNonSpace nextNonSpace_safe.h fun tk => .assume (WfItem inp tk) (fun _ h => h.2.1) fun w =>
    (backup_safe_slot 1 tk).h.weaken (fun _ h => ⟨h.1, h.2.2⟩) fun _ _ h => ⟨h.1, w, h.2⟩).safe

end JetVerif.Parse
