/-
  Every tree the parser model builds has the shape the evaluator theorems assume.

  The predicates are in Lemmas/ParseShapeDefs.lean.  As in Lemmas/ParseLines.lean a partial-correctness triple
  `Holds m Q` ("if `m` returns `a` from a state whose registered blocks are all shaped, so are the registered
  blocks of the new state, and `Q a`"), an instance of `Ret` (Lemmas/ParseRet.lean), is proved of all
  productions of Model/Parse.lean by induction on the fuel, each walked along its shape by `rwalk` (there) with
  the triples of the productions it calls.  `registerBlock` is the only writer of `passed`; the tests the productions
  make before they build a node (`if`s and `match`es) are what the shapes record, so the conditional rule hands the
  test to the branch.
-/
import JetVerif.Lemmas.ParseShapeDefs
import JetVerif.Lemmas.ParseRet

namespace JetVerif.Parse

@[simp] theorem sk_nat (l : Nat) : Shp.ok l ↔ True := Iff.rfl
@[simp] theorem sk_item (t : Item) : Shp.ok t ↔ True := Iff.rfl
@[simp] theorem sk_tok (t : Tok) : Shp.ok t ↔ True := Iff.rfl
@[simp] theorem sk_unit (t : Unit) : Shp.ok t ↔ True := Iff.rfl
@[simp] theorem sk_bool (t : Bool) : Shp.ok t ↔ True := Iff.rfl
@[simp] theorem sk_pst (t : PSt) : Shp.ok t ↔ True := Iff.rfl
@[simp] theorem sk_bytes (t : Bytes) : Shp.ok t ↔ True := ⟨fun _ => trivial, fun _ _ _ => trivial⟩
@[simp] theorem sk_bytesList (t : List Bytes) : Shp.ok t ↔ True :=
  ⟨fun _ => trivial, fun _ _ _ => (sk_bytes _).2 trivial⟩
@[simp] theorem sk_prod {α β} [Shp α] [Shp β] (a : α) (b : β) :
    Shp.ok (a, b) ↔ Shp.ok a ∧ Shp.ok b := Iff.rfl
@[simp] theorem sk_prod' {α β} [Shp α] [Shp β] (p : α × β) :
    Shp.ok p ↔ Shp.ok p.1 ∧ Shp.ok p.2 := Iff.rfl
@[simp] theorem sk_inl {α β} [Shp α] [Shp β] (a : α) : Shp.ok (Sum.inl a : α ⊕ β) ↔ Shp.ok a := Iff.rfl
@[simp] theorem sk_inr {α β} [Shp α] [Shp β] (b : β) : Shp.ok (Sum.inr b : α ⊕ β) ↔ Shp.ok b := Iff.rfl
@[simp] theorem sk_none {α} [Shp α] : Shp.ok (none : Option α) ↔ True :=
  ⟨fun _ => trivial, fun _ _ h => by cases h⟩
@[simp] theorem sk_some {α} [Shp α] (a : α) : Shp.ok (some a) ↔ Shp.ok a :=
  ⟨fun h => h a rfl, fun h b e => by cases e; exact h⟩
@[simp] theorem sk_nil {α} [Shp α] : Shp.ok ([] : List α) ↔ True :=
  ⟨fun _ => trivial, fun _ _ h => by cases h⟩
@[simp] theorem sk_cons {α} [Shp α] (a : α) (l : List α) :
    Shp.ok (a :: l) ↔ Shp.ok a ∧ Shp.ok l := by
  show (∀ x, x ∈ a :: l → Shp.ok x) ↔ Shp.ok a ∧ (∀ x, x ∈ l → Shp.ok x)
  simp
@[simp] theorem sk_append {α} [Shp α] (l1 l2 : List α) :
    Shp.ok (l1 ++ l2) ↔ Shp.ok l1 ∧ Shp.ok l2 := by
  show (∀ x, x ∈ l1 ++ l2 → Shp.ok x) ↔ (∀ x, x ∈ l1 → Shp.ok x) ∧ (∀ x, x ∈ l2 → Shp.ok x)
  simp [or_imp, forall_and]
theorem sk_list {α} [Shp α] (l : List α) : Shp.ok l ↔ ∀ a, a ∈ l → Shp.ok a := Iff.rfl

theorem sk_stmtEls (o : Option (Nat × List PStmt)) : PStmt.ShapedEls o ↔ Shp.ok o := by
  cases o with
  | none => simp [PStmt.ShapedEls]
  | some p => obtain ⟨l, list⟩ := p; simp [PStmt.ShapedEls, PStmt.shapedList_iff]
@[simp] theorem sk_errVar (ev : Option (Nat × Bytes)) : Shp.ok ev ↔ True :=
  ⟨fun _ => trivial, fun _ _ _ => ⟨trivial, (sk_bytes _).2 trivial⟩⟩
theorem sk_stmtCatch (o : Option (Nat × Option (Nat × Bytes) × Nat × List PStmt)) :
    PStmt.ShapedCatch o ↔ Shp.ok o := by
  cases o with
  | none => simp [PStmt.ShapedCatch]
  | some p => obtain ⟨l, ev, ll, list⟩ := p; simp [PStmt.ShapedCatch, PStmt.shapedList_iff]

@[simp] theorem sk_expr (e : PExpr) : Shp.ok e ↔ PExpr.Shaped e := Iff.rfl
@[simp] theorem sk_stmt (e : PStmt) : Shp.ok e ↔ PStmt.Shaped e := Iff.rfl
@[simp] theorem sk_set (e : PSet) : Shp.ok e ↔ PSet.Shaped e := Iff.rfl
@[simp] theorem sk_cmd (e : PCmd) : Shp.ok e ↔ PCmd.Shaped e := Iff.rfl
@[simp] theorem sk_pipe (e : PPipe) : Shp.ok e ↔ PPipe.Shaped e := Iff.rfl
@[simp] theorem sk_param (e : PParam) : Shp.ok e ↔ PParam.Shaped e := Iff.rfl

theorem isUnd_iff_nt (e : PExpr) : e.isUnd = true ↔ e.nt = NT.underscore := by
  cases e <;> simp [PExpr.isUnd, PExpr.nt]
  rename_i k _ _ _ _
  cases k <;> simp

theorem slotShape_nil (b : Bool) : SlotShape [] b := by simp [SlotShape]

/-! ### what the productions with a postcondition of their own return -/

/-- `parseArguments`: shaped arguments, and the slot flag is set if one of them is `_` -/
def ArgsQ (p : List PExpr × Bool) : Prop := Shp.ok p.1 ∧ SlotShape p.1 p.2

/-- `assignLeftLoop`: shaped, assignable left sides, at least one -/
def LeftQ (p : List PExpr × Bool) : Prop :=
  Shp.ok p.1 ∧ (∀ l, l ∈ p.1 → assignable l.nt = true) ∧ p.1 ≠ []

/-- `assignRightLoop`: shaped right sides, at least one -/
def RightQ (r : List PExpr) : Prop := Shp.ok r ∧ r ≠ []

/-- `assignmentOrExpression`: an expression, or an assignment which - outside a range header - has as many right
    sides as left sides or is the lookup form -/
def AoeQ (context : String) (r : PExpr ⊕ PSet) : Prop :=
  match r with
  | .inl e => Shp.ok e
  | .inr s => Shp.ok s ∧ (context ≠ "range" → s.LenOk)

/-- `pipelineLoop`: shaped commands, at least one -/
def CmdsQ (l : List PCmd) : Prop := Shp.ok l ∧ l ≠ []

/-- the header of an `if` / `range`: an `if` (`allowElseIf`) header's assignment has matching sides, and there is
    an assignment or an expression -/
def HeadQ (a : Bool) (p : Option PSet × Option PExpr) : Prop :=
  Shp.ok p.1 ∧ Shp.ok p.2 ∧ (a = true → PSet.LenOkOpt p.1) ∧ (p.1 = none → p.2 ≠ none)

attribute [local simp] PExpr.Shaped PStmt.Shaped PCmd.Shaped PPipe.Shaped PParam.Shaped PCmd.argList PSet.LenOkOpt MulTok
  ArgsQ PExpr.shapedList_iff PExpr.shapedOpt_iff PStmt.shapedList_iff sk_stmtEls sk_stmtCatch slotShape_nil RightQ AoeQ CmdsQ
  HeadQ

/-- closes a goal "`x` is shaped" from the hypotheses about its parts -/
macro "sok" : tactic => `(tactic| first
  | with_reducible_and_instances assumption
  | (simp_all; done))

/-- the part of the state the argument is about: every block registered so far is shaped -/
def JS (s : PSt) : Prop := ∀ b, b ∈ s.passed → PStmt.Shaped b.2

/-- `Ret JS m Q` written out: the rules below are those of `Ret`, under the names by which `rwalk` looks them up -/
def Holds {α} (m : PM α) (Q : α → Prop) : Prop :=
  ∀ s, JS s → ∀ a s', m s = .ok a s' → JS s' ∧ Q a

/-- `Holds` with the canonical postcondition of the result type -/
abbrev HoldsOk {α} [Shp α] (m : PM α) : Prop := Holds m Shp.ok

theorem JS_framed : Framed JS := fun _ _ _ hp h => by unfold JS; rw [hp]; exact h

theorem Holds.bind {α β} {m : PM α} {f : α → PM β} {P : α → Prop} {R : β → Prop}
    (hm : Holds m P) (hf : ∀ a, P a → Holds (f a) R) : Holds (m >>= f) R := Ret.bind hm hf
theorem Holds.bindOk {α β} [Shp α] {m : PM α} {f : α → PM β} {R : β → Prop} (hm : HoldsOk m)
    (hf : ∀ a, Shp.ok a → Holds (f a) R) : Holds (m >>= f) R := Ret.bind hm hf
theorem Holds.bindFrame {α β} {m : PM α} [Frame m] {f : α → PM β} {R : β → Prop} (hf : ∀ a, Holds (f a) R) :
    Holds (m >>= f) R := Ret.bindFrame JS_framed hf
theorem Holds.pure {α} {Q : α → Prop} {a : α} (h : Q a) : Holds (Pure.pure a : PM α) Q := Ret.pure h
theorem Holds.ite {α} {c : Prop} {d : Decidable c} {m1 m2 : PM α} {Q : α → Prop}
    (h1 : c → Holds m1 Q) (h2 : ¬ c → Holds m2 Q) : Holds (@_root_.ite _ c d m1 m2) Q := Ret.ite h1 h2
theorem Holds.fails {α} {m : PM α} [Fails m] {Q : α → Prop} : Holds m Q := Ret.fails
theorem Holds.frame {α} [Shp α] {m : PM α} [Frame m] (h : ∀ a : α, Shp.ok a := by simp) : HoldsOk m :=
  Ret.frame JS_framed h

-- for the shapes `lineNumber` is one more call that matters as little as those into the token buffer
attribute [local instance] Frame.lineNumber

theorem Holds.outOfFuel {α} {Q : α → Prop} : Holds (outOfFuel : PM α) Q := Holds.fails
theorem Holds.unsupported {α} {Q : α → Prop} (w : String) : Holds (unsupported w : PM α) Q := Holds.fails
theorem Holds.crash {α} {Q : α → Prop} (w : String) : Holds (crash w : PM α) Q := Holds.fails
theorem Holds.errorf {α} {Q : α → Prop} (ps : List MP) : Holds (errorf ps : PM α) Q := Holds.fails
theorem Holds.unexpected {α} {Q : α → Prop} (tk : Item) (c x : String) : Holds (unexpected tk c x : PM α) Q := Holds.fails
theorem Holds.lineNumber : Holds lineNumber Shp.ok := Holds.frame
theorem Holds.nextItem : Holds nextItem Shp.ok := Holds.frame
theorem Holds.backup : Holds backup Shp.ok := Holds.frame
theorem Holds.backup2 (t : Item) : Holds (backup2 t) Shp.ok := Holds.frame
theorem Holds.nextNonSpace : Holds nextNonSpace Shp.ok := Holds.frame
theorem Holds.peekNonSpace : Holds peekNonSpace Shp.ok := Holds.frame
theorem Holds.expect (ty : Tok) (c e : String) : Holds (expect ty c e) Shp.ok := Holds.frame

theorem Holds.registerBlock (name : Bytes) (b : PStmt) (hb : Shp.ok b) :
    Holds (registerBlock name b) Shp.ok := fun _ hs _ _ e =>
  ⟨fun x hx => ((registerBlock_eq_ok e).2 x hx).elim (hs x) fun e => e ▸ hb, trivial⟩

variable (cfg : Cfg)

structure ExprShapes (n : Nat) : Prop where
  term : HoldsOk (term cfg n)
  chainLoop : ∀ acc, HoldsOk (chainLoop n acc)
  operandReset : ∀ node, Shp.ok node → HoldsOk (operandReset cfg n node)
  operand : ∀ ctx, HoldsOk (operand cfg n ctx)
  argsLoop : ∀ acc slot, Shp.ok acc → SlotShape acc slot → Holds (parseArgumentsLoop cfg n acc slot) ArgsQ
  args : Holds (parseArguments cfg n) ArgsQ
  unary : ∀ ctx, HoldsOk (unaryExpression cfg n ctx)
  mulLoop : ∀ ctx l e, Shp.ok l → HoldsOk (multiplicativeLoop cfg n ctx l e)
  mul : ∀ ctx, HoldsOk (multiplicativeExpression cfg n ctx)
  addLoop : ∀ ctx l e, Shp.ok l → HoldsOk (additiveLoop cfg n ctx l e)
  add : ∀ ctx, HoldsOk (additiveExpression cfg n ctx)
  relLoop : ∀ ctx l e, Shp.ok l → HoldsOk (numericComparativeLoop cfg n ctx l e)
  rel : ∀ ctx, HoldsOk (numericComparativeExpression cfg n ctx)
  eqLoop : ∀ ctx l e, Shp.ok l → HoldsOk (comparativeLoop cfg n ctx l e)
  eq : ∀ ctx, HoldsOk (comparativeExpression cfg n ctx)
  logLoop : ∀ ctx l e, Shp.ok l → HoldsOk (logicalLoop cfg n ctx l e)
  log : ∀ ctx, HoldsOk (logicalExpression cfg n ctx)
  pexpr : ∀ ctx, HoldsOk (parseExpression cfg n ctx)
  expr : ∀ ctx as, HoldsOk (expression cfg n ctx as)

/-- the slot bookkeeping of `parseArgumentsLoop` -/
theorem slot_step (acc : List PExpr) (e : PExpr) (slot : Bool) (h : SlotShape acc slot) (err : PM Bool) [Fails err] :
    Holds (if e.nt = NT.underscore then (if slot = true then err else pure true) else pure slot)
      (fun s' => SlotShape (acc ++ [e]) s') := by
  refine Holds.ite (fun hu => Holds.ite (fun _ => Holds.fails) (fun _ => Holds.pure ?_)) (fun hu => Holds.pure ?_)
  · intro _; rfl
  · intro h2
    apply h
    simp only [List.any_append, Bool.or_eq_true] at h2
    rcases h2 with h2 | h2
    · exact h2
    · simp [isUnd_iff_nt] at h2; exact absurd h2 hu

theorem exprShapes_step (n : Nat) (ih : ExprShapes cfg n) : ExprShapes cfg (n + 1) where
  term := by rw [term]; rwalk sok [ih.expr]
  chainLoop acc := by rw [chainLoop]; rwalk sok [ih.chainLoop]
  operandReset node0 h0 := by
    rw [operandReset]; rwalk sok [ih.chainLoop, ih.args, ih.operandReset, ih.pexpr, ih.expr]
  operand ctx := by rw [operand]; rwalk sok [ih.term, ih.operandReset]
  argsLoop acc slot hacc hslot := by rw [parseArgumentsLoop]; rwalk sok [ih.pexpr, slot_step, ih.argsLoop]
  args := by rw [parseArguments]; exact ih.argsLoop _ _ (by simp) (slotShape_nil _)
  unary ctx := by rw [unaryExpression]; rwalk sok [ih.eq, ih.operand]
  mulLoop ctx l e hl := by rw [multiplicativeLoop]; rwalk sok [ih.unary, ih.mulLoop]
  mul ctx := by rw [multiplicativeExpression]; rwalk sok [ih.unary, ih.mulLoop]
  addLoop ctx l e hl := by rw [additiveLoop]; rwalk sok [ih.mul, ih.addLoop]
  add ctx := by rw [additiveExpression]; rwalk sok [ih.mul, ih.addLoop]
  relLoop ctx l e hl := by rw [numericComparativeLoop]; rwalk sok [ih.add, ih.relLoop]
  rel ctx := by rw [numericComparativeExpression]; rwalk sok [ih.add, ih.relLoop]
  eqLoop ctx l e hl := by rw [comparativeLoop]; rwalk sok [ih.rel, ih.eqLoop]
  eq ctx := by rw [comparativeExpression]; rwalk sok [ih.rel, ih.eqLoop]
  logLoop ctx l e hl := by rw [logicalLoop]; rwalk sok [ih.eq, ih.logLoop]
  log ctx := by rw [logicalExpression]; rwalk sok [ih.eq, ih.logLoop]
  pexpr ctx := by rw [parseExpression]; rwalk sok [ih.log, ih.pexpr]
  expr ctx as := by rw [expression]; rwalk sok [ih.pexpr]

theorem exprShapes_all : ∀ n, ExprShapes cfg n
  | 0 => by constructor <;> intros <;> exact Holds.outOfFuel
  | n + 1 => exprShapes_step cfg n (exprShapes_all n)

theorem leftShape_of (left : List PExpr) (isLet : Bool) (ha : ∀ l, l ∈ left → assignable l.nt = true)
    (h : ¬(isLet = true ∧ (left.any fun o => decide (o.nt ≠ NT.ident ∧ o.nt ≠ NT.underscore)) = true)) :
    ∀ l, l ∈ left → LeftShape isLet l := by
  intro l hl
  refine ⟨ha l hl, fun hlet => ?_⟩
  simp only [hlet, true_and, List.any_eq_true, not_exists, not_and] at h
  have := h l hl
  simp at this
  by_cases h1 : l.nt = NT.ident
  · exact Or.inl h1
  · exact Or.inr (this h1)

theorem assignLeftLoop_shape (fuel : Nat) (ctx : String) : ∀ k left op ret, Shp.ok left →
    (∀ l, l ∈ left → assignable l.nt = true) → Shp.ok op →
    Holds (assignLeftLoop cfg fuel ctx k left op ret) LeftQ
  | 0, _, _, _, _, _, _ => Holds.outOfFuel
  | k + 1, left, op, ret, hl, ha, ho => by
    rw [assignLeftLoop]
    rwalk (simp_all [LeftQ, or_imp]) [(exprShapes_all cfg fuel).pexpr, assignLeftLoop_shape fuel ctx k]

theorem assignRightLoop_shape (fuel : Nat) : ∀ k right, Shp.ok right →
    Holds (assignRightLoop cfg fuel k right) RightQ
  | 0, _, _ => Holds.outOfFuel
  | k + 1, right, hr => by
    rw [assignRightLoop]
    rwalk sok [(exprShapes_all cfg fuel).pexpr, assignRightLoop_shape fuel k]

/-- the assignment node `assignmentOrExpression` builds from what the two loops return, the tests as it makes them -/
theorem aoeQ_set {ctx : String} {line : Nat} {lookup : Bool} {p : List PExpr × Bool} {right : List PExpr} (hl : LeftQ p)
    (hlet : ¬(p.2 = true ∧ (p.1.any fun o => decide (o.nt ≠ NT.ident ∧ o.nt ≠ NT.underscore)) = true)) (hr : RightQ right)
    (hlk : lookup = true → p.1.length = 2) (hlen : ctx ≠ "range" → lookup = false → ¬ p.1.length ≠ right.length) :
    AoeQ ctx (.inr { line := line, isLet := p.2, lookup := lookup, left := p.1, right := right }) :=
  ⟨⟨hl.1, hr.1, leftShape_of _ _ hl.2.1 hlet, hl.2.2, hr.2, hlk⟩,
    fun h1 h2 => Nat.le_of_eq (Decidable.of_not_not (hlen h1 h2))⟩

theorem assignmentOrExpression_shape (fuel : Nat) (ctx : String) :
    Holds (assignmentOrExpression cfg fuel ctx) (AoeQ ctx) := by
  unfold assignmentOrExpression
  rwalk (first | (refine aoeQ_set ‹_› ‹_› ‹_› ?_ ?_ <;> simp [*]) | sok) [(exprShapes_all cfg fuel).pexpr,
    assignLeftLoop_shape cfg fuel ctx, assignRightLoop_shape cfg fuel]

theorem command_shape (fuel : Nat) (base : Option PExpr) (hb : Shp.ok base) :
    HoldsOk (command cfg fuel base) := by
  unfold command
  rwalk sok [(exprShapes_all cfg fuel).expr, (exprShapes_all cfg fuel).args]

theorem pipelineLoop_shape (fuel : Nat) : ∀ k cmds, Shp.ok cmds → cmds ≠ [] →
    Holds (pipelineLoop cfg fuel k cmds) CmdsQ
  | 0, _, _, _ => Holds.outOfFuel
  | k + 1, cmds, hc, hne => by
    rw [pipelineLoop]; rwalk sok [command_shape cfg fuel, pipelineLoop_shape fuel k]

theorem pipeline_shape (fuel : Nat) (base : PExpr) (hb : Shp.ok base) : HoldsOk (pipeline cfg fuel base) := by
  unfold pipeline
  rwalk sok [command_shape cfg fuel, pipelineLoop_shape cfg fuel]

theorem blockParamsLoop_shape (fuel : Nat) (isDecl : Bool) (ctx : String) : ∀ k acc, Shp.ok acc →
    HoldsOk (blockParamsLoop cfg fuel isDecl ctx k acc)
  | 0, _, _ => Holds.outOfFuel
  | k + 1, acc, ha => by
    rw [blockParamsLoop]; rwalk sok [(exprShapes_all cfg fuel).pexpr, blockParamsLoop_shape fuel isDecl ctx k]

theorem blockParametersList_shape (fuel : Nat) (isDecl : Bool) (ctx : String) :
    HoldsOk (blockParametersList cfg fuel isDecl ctx) := by
  unfold blockParametersList
  rwalk sok [blockParamsLoop_shape cfg fuel isDecl ctx]

structure StmtShapes (n : Nat) : Prop where
  itemListLoop : ∀ terms acc, Shp.ok acc → HoldsOk (itemListLoop cfg n terms acc)
  itemList : ∀ terms, HoldsOk (itemList cfg n terms)
  textOrAction : HoldsOk (textOrAction cfg n)
  action : HoldsOk (action cfg n)
  parseInclude : HoldsOk (parseInclude cfg n)
  parseBlock : HoldsOk (parseBlock cfg n)
  parseYield : HoldsOk (parseYield cfg n)
  parseControl : ∀ a ctx, (a = true → ctx ≠ "range") → HoldsOk (parseControl cfg n a ctx)
  parseTry : HoldsOk (parseTry cfg n)
  parseCatch : HoldsOk (parseCatch cfg n)

theorem stmtShapes_step (n : Nat) (ih : StmtShapes cfg n) : StmtShapes cfg (n + 1) :=
  -- the closer rewrites every hypothesis at every leaf: a structure costs it nothing, a triple under binders does
  have e := exprShapes_all cfg n
  { itemListLoop := fun terms acc hacc => by rw [itemListLoop]; rwalk sok [ih.textOrAction, ih.itemListLoop]
    itemList := fun terms => by rw [itemList]; rwalk sok [ih.itemListLoop]
    textOrAction := by rw [textOrAction]; rwalk sok [ih.action]
    action := by
      rw [action]
      rwalk sok [ih.parseInclude, ih.parseBlock, ih.parseYield, ih.parseControl, ih.parseTry, ih.parseCatch, e.expr,
        assignmentOrExpression_shape cfg n, pipeline_shape cfg n]
    parseInclude := by rw [parseInclude]; rwalk sok [e.expr]
    parseBlock := by
      rw [parseBlock]; rwalk sok [Holds.registerBlock, blockParametersList_shape cfg n, e.expr, ih.itemList]
    parseYield := by rw [parseYield]; rwalk sok [blockParametersList_shape cfg n, e.expr, ih.itemList]
    parseControl := fun allowElseIf ctx hctx => by
      rw [parseControl]
      refine Holds.bind Holds.lineNumber (fun line _ => ?_)
      refine Holds.bind (P := HeadQ allowElseIf) ?_ (fun p hp => ?_)
      · rwalk sok [assignmentOrExpression_shape cfg n, e.expr]
      · rwalk sok [ih.itemList, ih.parseControl]
    parseTry := by rw [parseTry]; rwalk sok [ih.itemList]
    parseCatch := by rw [parseCatch]; rwalk sok [e.term, ih.itemList] }

theorem stmtShapes_all : ∀ n, StmtShapes cfg n
  | 0 => by constructor <;> intros <;> exact Holds.outOfFuel
  | n + 1 => stmtShapes_step cfg n (stmtShapes_all n)

theorem prologueLoop_shape : ∀ k skipped, Shp.ok skipped → HoldsOk (prologueLoop cfg k skipped)
  | 0, _, _ => Holds.outOfFuel
  | k + 1, skipped, hs => by rw [prologueLoop]; rwalk sok [Holds.frame, prologueLoop_shape k]

theorem bodyLoop_shape (fuel : Nat) : ∀ k acc, Shp.ok acc → HoldsOk (bodyLoop cfg fuel k acc)
  | 0, _, _ => Holds.outOfFuel
  | k + 1, acc, ha => by rw [bodyLoop]; rwalk sok [(stmtShapes_all cfg fuel).textOrAction, bodyLoop_shape fuel k]

theorem parseTemplate_shape (fuel : Nat) : HoldsOk (parseTemplate cfg fuel) := by
  unfold parseTemplate
  rwalk sok [prologueLoop_shape cfg, bodyLoop_shape cfg fuel]

theorem initial_JS (input name : Bytes) (toks : List Item) : JS { input := input, name := name, toks := toks } :=
  fun b hb => by simp at hb

end JetVerif.Parse
