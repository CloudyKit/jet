/-
  The parser model never crashes: for every fuel, every production started in a well-formed
  state (items inside the source, field items well-formed, at most two items pushed back) ends in
  `ok` with a well-formed state, in `err`, `fuel` or `unsupported` - never in `crash`.
  By induction on the fuel over the conjunction of the specifications of all productions (`ExprSpecs n`, `StmtSpecs n`).
  Every production gets a triple `Inv 2 → Inv 1` or `Inv 2 → Inv 2`, and `backup` is only ever used at `Inv 1` (`bk`):
  that a `backup` follows a `next` - the discipline of parse.go that keeps `t.token[t.peekCount]` in range - is what
  this bookkeeping proves.  A script names, statement by statement, what is called; that the state it is called in
  has no more items pushed back than the callee allows is part of the rule (`sb`, `SafeL.bind_mono`).
  The same pass, with a stronger postcondition at the one place `bodyLoop` returns, shows that a successful
  parse leaves nothing in the channel (`parseTemplate_drained`): `bodyLoop` returns only after `peek` has shown
  it an item of type `itemEOF`, and `Wf.eof` says that such an item in the look-ahead buffer means the channel
  is empty - provided the lexer sends it last (`EofLast`, proved of the lexer model in Lemmas/LexEof.lean).
-/
import JetVerif.Lemmas.ParseSafe
import JetVerif.Lemmas.ParseLevel

namespace JetVerif.Parse

variable (inp : Bytes) (cfg : Cfg)
local notation "Safe" => SafeL (LineOk inp)

abbrev I1 : PSt → Prop := Inv inp 1
abbrev I2 : PSt → Prop := Inv inp 2
abbrev Q1 {α : Type} : α → PSt → Prop := fun _ s => Inv inp 1 s
abbrev Q2 {α : Type} : α → PSt → Prop := fun _ s => Inv inp 2 s

theorem i12 {inp : Bytes} {s : PSt} (h : Inv inp 1 s) : Inv inp 2 s := h.mono (by omega)

/-- a `FieldNode` always has at least one name (what `newField(…, chain.String())` relies on) -/
def GoodNode : PExpr → Prop
  | .field _ names => names ≠ []
  | _ => True

/-! ### primitives, in the shapes the productions use them -/

theorem pk1 : Safe (Inv inp 1) peek (Q1 inp) := (peek_safe 1).post (fun _ _ h => h.1)

section
variable {inp}

theorem nns : Safe (I2 inp) nextNonSpace (Q1 inp) := nextNonSpace_safe.post fun _ _ h => h.1
theorem nnsW : Safe (I2 inp) nextNonSpace (fun a s => Inv inp 1 s ∧ WfItem inp a) :=
  nextNonSpace_safe.post fun _ _ h => ⟨h.1, h.2.1⟩
theorem nx : Safe (I2 inp) next (Q1 inp) := next_safe.post fun _ _ h => h.1
theorem nxW : Safe (I2 inp) next (fun a s => Inv inp 1 s ∧ WfItem inp a) := next_safe.post fun _ _ h => ⟨h.1, h.2.1⟩
theorem pns : Safe (I2 inp) peekNonSpace (Q2 inp) := peekNonSpace_safe.post fun _ _ h => h.1
theorem pk2 : Safe (I2 inp) peek (Q2 inp) := (peek_safe 2).post fun _ _ h => h.1
theorem bk : Safe (I1 inp) backup (Q2 inp) := backup_safe 1

theorem expect_safe {ty : Tok} {c e : String} : Safe (I2 inp) (expect ty c e) (Q1 inp) :=
  ((Hoare.expect ty c e nns.h fun _ => mayFail_safe 1).post fun _ _ h => h.1).safe

theorem expectRD_safe {c : String} : Safe (I2 inp) (expectRightDelim c) (Q1 inp) := expect_safe

theorem expectOneOf_safe {t1 t2 : Tok} {c e : String} : Safe (I2 inp) (expectOneOf t1 t2 c e) (Q1 inp) :=
  ((Hoare.expectOneOf t1 t2 c e nns.h fun _ => mayFail_safe 1).post fun _ _ h => h.1).safe

theorem expectString_safe {c : String} : Safe (I2 inp) (expectString cfg c) (Q1 inp) :=
  ((Hoare.expectString cfg c nns.h fun _ => mayFail_safe 1).post fun _ _ ⟨_, h, _⟩ => h).safe

theorem splitDots_go_ne (cur : Bytes) (acc : List Bytes) (b : Bytes) : splitDots.go cur acc b ≠ [] := by
  induction b generalizing cur acc with
  | nil => simp [splitDots.go]
  | cons c rest ih =>
    simp only [splitDots.go]
    split
    · exact ih _ _
    · exact ih _ _

theorem splitDots_ne (b : Bytes) : splitDots b ≠ [] := splitDots_go_ne _ _ _

theorem fieldNames_safe (P : PSt → Prop) (v : Bytes) (hv : v ≠ []) :
    Safe P (fieldNames v) (fun r s => P s ∧ r ≠ []) := by
  intro s hs
  cases v with
  | nil => exact (hv rfl).elim
  | cons c rest => simp [fieldNames]; exact ⟨hs, splitDots_ne rest⟩

theorem chainAdd_safe (P : PSt → Prop) (fields : List Bytes) (v : Bytes) (hv : ∃ c cs, v = 46 :: c :: cs) :
    Safe P (chainAdd fields v) (fun r s => P s ∧ r ≠ []) := by
  intro s hs
  obtain ⟨c, cs, rfl⟩ := hv
  simp [chainAdd]
  exact hs

theorem next_after_peek (pk : Item) :
    Safe (fun s => Inv inp 2 s ∧ OnTop pk s) next (fun a s => Inv inp 1 s ∧ a = pk) := by
  intro s ⟨⟨w, hk⟩, ht⟩
  rw [next_onTop ht (by omega)]
  exact ⟨⟨w.congr rfl, by show s.peekCount - 1 ≤ 1; omega⟩, rfl⟩

theorem peekNonSpace_again {pk : Item} {s : PSt} (ht : OnTop pk s) (h2 : s.peekCount ≤ 2) (hsp : pk.typ ≠ Tok.space) :
    peekNonSpace s = .ok pk s := by
  have hnn : nextNonSpace s = .ok pk { s with peekCount := s.peekCount - 1 } := by
    show nextNonSpaceLoop (s.toks.length + s.peekCount + 1 + 1) s = _
    simp [nextNonSpaceLoop, bind_apply, next_onTop ht (by omega), hsp]
  have h1 := ht.1
  unfold peekNonSpace
  simp [bind_apply, hnn, backup, modify]
  cases s
  simp at h1 ⊢
  omega

theorem dotted_ne (pre : Bytes) {names : List Bytes} (h : names ≠ []) : pre ++ dotted names ≠ [] := by
  cases names with
  | nil => exact (h rfl).elim
  | cons n ns => simp [dotted]

end

/-! ### the expression productions -/

structure ExprSpecs (n : Nat) : Prop where
  term : Safe (I2 inp) (term cfg n) (Q2 inp)
  chainLoop : ∀ acc, Safe (I2 inp) (chainLoop n acc) (fun r s => Inv inp 2 s ∧ (acc ≠ [] → r ≠ []))
  chainFirst : ∀ pk : Item, pk.typ = Tok.field →
    Safe (fun s => Inv inp 2 s ∧ WfItem inp pk ∧ s.peekCount ≥ 1 ∧ pk = slotAt s (s.peekCount - 1)) (Parse.chainLoop n [])
      (fun r s => Inv inp 2 s ∧ r ≠ [])
  operandReset : ∀ node, Safe (I2 inp) (operandReset cfg n node) (Q2 inp)
  operand : ∀ ctx, Safe (I2 inp) (operand cfg n ctx) (Q2 inp)
  argsLoop : ∀ acc slot, Safe (I2 inp) (parseArgumentsLoop cfg n acc slot) (Q2 inp)
  args : Safe (I2 inp) (parseArguments cfg n) (Q2 inp)
  unary : ∀ ctx, Safe (I2 inp) (unaryExpression cfg n ctx) (Q1 inp)
  mulLoop : ∀ ctx l e, Safe (I1 inp) (multiplicativeLoop cfg n ctx l e) (Q1 inp)
  mul : ∀ ctx, Safe (I2 inp) (multiplicativeExpression cfg n ctx) (Q1 inp)
  addLoop : ∀ ctx l e, Safe (I1 inp) (additiveLoop cfg n ctx l e) (Q1 inp)
  add : ∀ ctx, Safe (I2 inp) (additiveExpression cfg n ctx) (Q1 inp)
  relLoop : ∀ ctx l e, Safe (I1 inp) (numericComparativeLoop cfg n ctx l e) (Q1 inp)
  rel : ∀ ctx, Safe (I2 inp) (numericComparativeExpression cfg n ctx) (Q1 inp)
  eqLoop : ∀ ctx l e, Safe (I1 inp) (comparativeLoop cfg n ctx l e) (Q1 inp)
  eq : ∀ ctx, Safe (I2 inp) (comparativeExpression cfg n ctx) (Q1 inp)
  logLoop : ∀ ctx l e, Safe (I1 inp) (logicalLoop cfg n ctx l e) (Q1 inp)
  log : ∀ ctx, Safe (I2 inp) (logicalExpression cfg n ctx) (Q1 inp)
  pexpr : ∀ ctx, Safe (I2 inp) (parseExpression cfg n ctx) (Q1 inp)
  expr : ∀ ctx as, Safe (I2 inp) (expression cfg n ctx as) (Q2 inp)

macro "sb " t:term : tactic => `(tactic| (refine SafeL.bind_mono $t ?_; intro _))
/-- returning a value under the invariant at hand: as it is, as the first conjunct of what holds, or after `Inv 1 → Inv 2` -/
macro "sret" : tactic => `(tactic| exact SafeL.pure _ (fun _ h => by first | exact h | exact h.1 | exact i12 h | exact i12 h.1))

/-- one turn of a binary loop, in the `if` form in which `Model/Parse` writes the five; they themselves go through
    `Level.safe` below -/
theorem loop_step {n : Nat} {ctx : String} (c : Prop) [Decidable c]
    (sub : String → PM (PExpr × Item)) (loop : PExpr → Item → PM (PExpr × Item)) (mk : Nat → PExpr → PExpr)
    (hsub : Safe (I2 inp) (sub ctx) (Q1 inp)) (hloop : ∀ l e, Safe (I1 inp) (loop l e) (Q1 inp))
    (left : PExpr) (endtoken : Item) :
    Safe (I1 inp) (if c then (do
        let (right, rightend) ← sub ctx
        let l ← lineNumber
        loop (mk l right) rightend) else pure (left, endtoken)) (Q1 inp) :=
  SafeL.ite (fun _ => hsub.bind_mono fun _ => (lineNumber_safe 1).bind fun _ => hloop _ _)
    fun _ => SafeL.pure _ fun _ h => h

theorem Level.safe {expr lower loop kind isOp} (L : Level expr lower loop kind isOp) [DecidablePred isOp] {n : Nat}
    (hlow : ∀ ctx, Safe (I2 inp) (lower n ctx) (Q1 inp)) (hloop : ∀ ctx l e, Safe (I1 inp) (loop n ctx l e) (Q1 inp)) :
    (∀ ctx, Safe (I2 inp) (expr (n + 1) ctx) (Q1 inp)) ∧ ∀ ctx l e, Safe (I1 inp) (loop (n + 1) ctx l e) (Q1 inp) :=
  ⟨fun ctx => L.expr_succ n ctx ▸ (hlow ctx).bind fun _ => hloop _ _ _,
   fun ctx l e => if h : isOp e.typ
     then L.loop_op n ctx l e h ▸ (hlow ctx).bind_mono fun _ => (lineNumber_safe 1).bind fun _ => hloop _ _ _
     else fun s hs => by rw [L.loop_stop n ctx l e s h]; exact hs⟩

/-- the turn of `chainLoop` once its peek has shown the field item `pk`: the item is read and appended to the chain -/
theorem chain_turn {n : Nat} (ih : ∀ acc, Safe (I2 inp) (chainLoop n acc) (fun r s => Inv inp 2 s ∧ (acc ≠ [] → r ≠ [])))
    (pk : Item) (hf : pk.typ = Tok.field) (acc : List Bytes) :
    Safe (fun s => Inv inp 2 s ∧ WfItem inp pk ∧ OnTop pk s)
      (do let tk ← next; chainLoop n (← chainAdd acc tk.val)) (fun r s => Inv inp 2 s ∧ r ≠ []) := by
  refine SafeL.assume (WfItem inp pk) (fun _ h => h.2.1) (fun wpk => ?_)
  refine SafeL.bindF ((next_after_peek pk).pre fun s h => ⟨h.1, h.2.2⟩) fun tk htk => ?_
  subst htk
  refine SafeL.bindF (chainAdd_safe (I1 inp) acc tk.val (wpk.2.2 hf)) fun a ha => ?_
  exact (ih a).mono.post fun r s h => ⟨h.1, h.2 ha⟩

theorem exprSpecs_step (n : Nat) (ih : ExprSpecs inp cfg n) : ExprSpecs inp cfg (n + 1) where
  term := by
    rw [term]
    -- what the lexer guarantees of the item read is used for a field item only
    refine SafeL.bindF nnsW fun tk wtk => ?_
    refine SafeL.ite (fun _ => errorf_safe) (fun _ => ?_)
    refine SafeL.ite (fun _ => ?_) (fun _ => ?_)  -- identifier
    · sb (lineNumber_safe 1)
      sret
    refine SafeL.ite (fun _ => ?_) (fun _ => ?_)  -- underscore
    · sb (lineNumber_safe 1)
      sret
    refine SafeL.ite (fun _ => ?_) (fun _ => ?_)  -- nil
    · sb (lineNumber_safe 1)
      sret
    refine SafeL.ite (fun hf => ?_) (fun _ => ?_)  -- field
    · obtain ⟨c, cs, e⟩ := wtk.2.2 hf
      sb (lineNumber_safe 1)
      sb (fieldNames_safe (I1 inp) tk.val (by simp [e]))
      sret
    refine SafeL.ite (fun _ => ?_) (fun _ => ?_)  -- bool
    · sb (lineNumber_safe 1)
      sret
    refine SafeL.ite (fun _ => ?_) (fun _ => ?_)  -- char constant, complex, number
    · sb (lineNumber_safe 1)
      split
      · sret
      · exact errorf_safe
      · exact SafeL.unsupported _
      · exact SafeL.unsupported _
    refine SafeL.ite (fun _ => ?_) (fun _ => ?_)  -- ( expression )
    · sb (ih.expr _ _)
      sb nx
      refine SafeL.ite (fun _ => unexpected_safe) (fun _ => ?_)
      sret
    refine SafeL.ite (fun _ => ?_) (fun _ => ?_)  -- string, raw string
    · split
      · sb (lineNumber_safe 1)
        sret
      · exact errorf_safe
      · exact SafeL.unsupported _
      · exact SafeL.unsupported _
    · sb bk  -- anything else is pushed back
      sret
  chainLoop := by
    intro acc
    rw [chainLoop]
    refine SafeL.bind peekNonSpace_safe ?_
    intro pk
    refine SafeL.ite (fun hf => ?_) (fun _ => SafeL.pure _ (fun _ h => ⟨h.1, fun h => h⟩))
    exact (chain_turn inp ih.chainLoop pk hf acc).post fun _ _ h => ⟨h.1, fun _ => h.2⟩
  chainFirst := by
    intro pk hf
    rw [chainLoop]
    -- the peek returns `pk` again and leaves the state as it is
    refine SafeL.bindF (Q := fun _ s => Inv inp 2 s ∧ WfItem inp pk ∧ OnTop pk s) (φ := (· = pk)) ?_ fun pk' e => ?_
    · intro s hs
      rw [peekNonSpace_again hs.2.2 hs.1.2 (by rw [hf]; decide)]
      exact ⟨hs, rfl⟩
    rw [e, if_pos hf]
    exact chain_turn inp ih.chainLoop pk hf []
  operandReset := by
    intro node0
    rw [operandReset]
    refine SafeL.bind (peek_safe 2) ?_
    intro pk
    refine SafeL.bind (Q := Q2 inp) ?_ ?_
    · refine SafeL.ite (fun hf => ?_) (fun _ => SafeL.pure _ (fun _ h => h.1))
      refine SafeL.bind (lineNumber_keeps 2 _ (fun _ h => h.1)) ?_
      intro l
      refine SafeL.bindF (ih.chainFirst pk hf) fun fields hne => ?_
      split
      · sb (lineNumber_safe 2)
        sb (fieldNames_safe (I2 inp) _ (dotted_ne _ hne))
        sret
      · exact errorf_safe
      · exact errorf_safe
      · exact errorf_safe
      · exact errorf_safe
      · sret
    intro node
    refine SafeL.ite (fun _ => ?_) (fun _ => SafeL.skip)
    sb nns
    refine SafeL.ite (fun _ => ?_) (fun _ => ?_)
    · sb (lineNumber_safe 1)
      sb ih.args
      sb expect_safe
      exact (ih.operandReset _).mono
    refine SafeL.ite (fun _ => ?_) (fun _ => ?_)
    · sb pns
      refine SafeL.bind (Q := Q1 inp) ?_ ?_
      · refine SafeL.ite (fun _ => ?_) (fun _ => ?_)
        · sb (ih.pexpr _)
          sret
        · sb nns
          sret
      intro p
      refine SafeL.bind (Q := Q2 inp) ?_ ?_
      · refine SafeL.ite (fun _ => ?_) (fun _ => ?_)
        · sb pns
          refine SafeL.bind (Q := Q2 inp) ?_ ?_
          · refine SafeL.ite (fun _ => ?_) (fun _ => SafeL.skip)
            sb (ih.expr _ _)
            sret
          intro e
          sret
        · refine SafeL.ite (fun _ => ?_) (fun _ => ?_)
          · sb bk
            sret
          · sb bk
            sret
      intro node2
      sb expect_safe
      exact (ih.operandReset _).mono
    · sb bk
      sret
  operand := by
    intro ctx
    rw [operand]
    sb ih.term
    split
    · sb nx
      exact unexpected_safe
    · exact ih.operandReset _
  argsLoop := by
    intro acc slot
    rw [parseArgumentsLoop]
    sb pns
    refine SafeL.ite (fun _ => SafeL.skip) (fun _ => ?_)
    sb (ih.pexpr _)
    refine SafeL.bind (Q := Q1 inp) ?_ ?_
    · refine SafeL.ite (fun _ => ?_) (fun _ => SafeL.skip)
      refine SafeL.ite (fun _ => errorf_safe) (fun _ => SafeL.skip)
    intro slot'
    refine SafeL.ite (fun _ => (ih.argsLoop _ _).mono) (fun _ => ?_)
    sb bk
    sret
  args := by
    rw [parseArguments]
    exact ih.argsLoop _ _
  unary := by
    intro ctx
    rw [unaryExpression]
    sb nns
    refine SafeL.ite (fun _ => ?_) (fun _ => ?_)
    · sb (ih.eq ctx)
      sb (lineNumber_safe 1)
      sret
    · refine SafeL.ite (fun _ => ?_) (fun _ => ?_)
      · sb (lineNumber_safe 1)
        sb (ih.operand _)
        sb nns
        sret
      · sb bk
        sb (ih.operand _)
        sb nns
        sret
  mulLoop := ((mulLevel cfg).safe inp ih.unary ih.mulLoop).2
  mul := ((mulLevel cfg).safe inp ih.unary ih.mulLoop).1
  addLoop := ((addLevel cfg).safe inp ih.mul ih.addLoop).2
  add := ((addLevel cfg).safe inp ih.mul ih.addLoop).1
  relLoop := ((relLevel cfg).safe inp ih.add ih.relLoop).2
  rel := ((relLevel cfg).safe inp ih.add ih.relLoop).1
  eqLoop := ((eqLevel cfg).safe inp ih.rel ih.eqLoop).2
  eq := ((eqLevel cfg).safe inp ih.rel ih.eqLoop).1
  logLoop := ((logLevel cfg).safe inp ih.eq ih.logLoop).2
  log := ((logLevel cfg).safe inp ih.eq ih.logLoop).1
  pexpr := by
    intro ctx
    rw [parseExpression]
    sb (ih.log ctx)
    refine SafeL.ite (fun _ => ?_) (fun _ => SafeL.skip)
    sb (ih.pexpr ctx)
    refine SafeL.ite (fun _ => unexpected_safe) (fun _ => ?_)
    sb (ih.pexpr ctx)
    sb (lineNumber_safe 1)
    sret
  expr := by
    intro ctx as
    rw [expression]
    sb (ih.pexpr ctx)
    sb bk
    sret

theorem exprSpecs_all : ∀ n, ExprSpecs inp cfg n
  | 0 => by constructor <;> intros <;> exact SafeL.outOfFuel
  | n + 1 => exprSpecs_step inp cfg n (exprSpecs_all n)

/-! ### assignments, commands, pipelines, block parameter lists -/

section
variable {inp}

theorem get_safe (k : Nat) : Safe (Inv inp k) get (fun _ s => Inv inp k s) := fun _ hs => hs

theorem modify_safe (k : Nat) (f : PSt → PSt) (hf : ∀ s, (f s).buf = s.buf ∧ (f s).peekCount = s.peekCount) :
    Safe (Inv inp k) (modify f) (fun _ s => Inv inp k s) := fun s ⟨w, hk⟩ => ⟨w.congr (hf s).1, (hf s).2 ▸ hk⟩

theorem registerBlock_safe (k : Nat) (name : Bytes) (b : PStmt) :
    Safe (Inv inp k) (registerBlock name b) (fun _ s => Inv inp k s) :=
  modify_safe k _ fun _ => by split <;> exact ⟨rfl, rfl⟩

end

theorem assignLeftLoop_safe (fuel : Nat) (ctx : String) : ∀ k left op ret,
    Safe (I1 inp) (assignLeftLoop cfg fuel ctx k left op ret) (Q1 inp)
  | 0, _, _, _ => SafeL.outOfFuel
  | k + 1, left, op, ret => by
    rw [assignLeftLoop]
    refine SafeL.ite (fun _ => errorf_safe) (fun _ => ?_)
    refine SafeL.ite (fun _ => ?_) (fun _ => ?_)
    · sb ((exprSpecs_all inp cfg fuel).pexpr ctx)
      exact assignLeftLoop_safe fuel ctx k _ _ _
    · refine SafeL.ite (fun _ => SafeL.skip) (fun _ => unexpected_safe)

theorem assignRightLoop_safe (fuel : Nat) : ∀ k right,
    Safe (I2 inp) (assignRightLoop cfg fuel k right) (Q2 inp)
  | 0, _ => SafeL.outOfFuel
  | k + 1, right => by
    rw [assignRightLoop]
    sb ((exprSpecs_all inp cfg fuel).pexpr _)
    refine SafeL.ite (fun _ => ?_) (fun _ => ?_)
    · sb bk
      sret
    · exact (assignRightLoop_safe fuel k _).mono

theorem assignmentOrExpression_safe (fuel : Nat) (ctx : String) :
    Safe (I2 inp) (assignmentOrExpression cfg fuel ctx) (Q2 inp) := by
  unfold assignmentOrExpression
  sb pns
  sb (lineNumber_safe 2)
  sb ((exprSpecs_all inp cfg fuel).pexpr ctx)
  refine SafeL.ite (fun _ => ?_) (fun _ => ?_)
  · sb (get_safe 1)
    sb (assignLeftLoop_safe inp cfg fuel ctx _ _ _ _)
    refine SafeL.ite (fun _ => errorf_safe) (fun _ => ?_)
    sb (get_safe 1)
    sb (assignRightLoop_safe inp cfg fuel _ _)
    refine SafeL.ite (fun _ => ?_) (fun _ => ?_)
    · refine SafeL.ite (fun _ => errorf_safe) (fun _ => SafeL.skip)
    · refine SafeL.ite (fun _ => ?_) (fun _ => SafeL.skip)
      split
      · refine SafeL.ite (fun _ => SafeL.skip) (fun _ => errorf_safe)
      · exact errorf_safe
  · sb bk
    sret

theorem command_safe (fuel : Nat) (base : Option PExpr) : Safe (I2 inp) (command cfg fuel base) (Q2 inp) := by
  unfold command
  sb pns
  sb (lineNumber_safe 2)
  refine SafeL.bind (Q := Q2 inp) ?_ ?_
  · split
    · exact SafeL.skip
    · exact (exprSpecs_all inp cfg fuel).expr _ _
  intro b
  split
  · exact SafeL.skip
  · sb nns
    refine SafeL.ite (fun _ => ?_) (fun _ => ?_)
    · sb (exprSpecs_all inp cfg fuel).args
      sret
    · sb bk
      sret

theorem pipelineLoop_safe (fuel : Nat) : ∀ k cmds, Safe (I2 inp) (pipelineLoop cfg fuel k cmds) (Q1 inp)
  | 0, _ => SafeL.outOfFuel
  | k + 1, cmds => by
    rw [pipelineLoop]
    sb expectOneOf_safe
    refine SafeL.ite (fun _ => SafeL.skip) (fun _ => ?_)
    sb nns
    refine SafeL.ite (fun _ => ?_) (fun _ => unexpected_safe)
    sb bk
    sb (command_safe inp cfg fuel none)
    exact pipelineLoop_safe fuel k _

theorem pipeline_safe (fuel : Nat) (base : PExpr) : Safe (I2 inp) (pipeline cfg fuel base) (Q1 inp) := by
  unfold pipeline
  sb pns
  sb (lineNumber_safe 2)
  sb (command_safe inp cfg fuel _)
  sb (get_safe 2)
  sb (pipelineLoop_safe inp cfg fuel _ _)
  sret

theorem blockParamsLoop_safe (fuel : Nat) (isDecl : Bool) (ctx : String) : ∀ k acc,
    Safe (I2 inp) (blockParamsLoop cfg fuel isDecl ctx k acc) (Q2 inp)
  | 0, _ => SafeL.outOfFuel
  | k + 1, acc => by
    have E := exprSpecs_all inp cfg fuel
    rw [blockParamsLoop]
    -- what the lexer guarantees of the identifier is what `backup2` needs to put it back
    refine SafeL.bindF nnsW fun nx wnx => ?_
    refine SafeL.bind (Q := Q1 inp) ?_ ?_
    · refine SafeL.ite (fun hid => ?_) (fun _ => ?_)
      · sb nns
        refine SafeL.ite (fun _ => SafeL.skip) (fun _ => ?_)
        refine SafeL.ite (fun _ => ?_) (fun _ => ?_)
        · sb (E.pexpr ctx)
          sret
        · refine SafeL.ite (fun _ => ?_) (fun _ => unexpected_safe)
          sb (backup2_safe wnx hid)
          sb (E.pexpr ctx)
          sret
      · refine SafeL.ite (fun _ => ?_) (fun _ => SafeL.skip)
        refine SafeL.ite (fun _ => SafeL.skip) (fun _ => ?_)
        sb bk
        sb (E.pexpr ctx)
        sret
    intro p
    refine SafeL.ite (fun _ => ?_) (fun _ => ?_)
    · sb bk
      sret
    · exact (blockParamsLoop_safe fuel isDecl ctx k _).mono

theorem blockParametersList_safe (fuel : Nat) (isDecl : Bool) (ctx : String) :
    Safe (I2 inp) (blockParametersList cfg fuel isDecl ctx) (Q1 inp) := by
  unfold blockParametersList
  sb expect_safe
  sb (get_safe 1)
  sb (blockParamsLoop_safe inp cfg fuel isDecl ctx _ _)
  sb expect_safe
  sret

/-! ### statements -/

structure StmtSpecs (n : Nat) : Prop where
  itemListLoop : ∀ terms acc, Safe (I2 inp) (itemListLoop cfg n terms acc) (Q2 inp)
  itemList : ∀ terms, Safe (I2 inp) (itemList cfg n terms) (Q2 inp)
  textOrAction : Safe (I2 inp) (textOrAction cfg n) (Q2 inp)
  action : Safe (I2 inp) (action cfg n) (Q2 inp)
  parseInclude : Safe (I2 inp) (parseInclude cfg n) (Q2 inp)
  parseBlock : Safe (I2 inp) (parseBlock cfg n) (Q2 inp)
  parseYield : Safe (I2 inp) (parseYield cfg n) (Q2 inp)
  parseControl : ∀ a ctx, Safe (I2 inp) (parseControl cfg n a ctx) (Q2 inp)
  parseTry : Safe (I2 inp) (parseTry cfg n) (Q2 inp)
  parseCatch : Safe (I2 inp) (parseCatch cfg n) (Q2 inp)

/-- an optional context expression: `if pk.typ ≠ itemRightDelim then some <$> expression … else none` -/
theorem optExpr_safe (n : Nat) (c : Prop) [Decidable c] (ctx as : String) :
    Safe (I2 inp) (if c then (do pure (some (← expression cfg n ctx as))) else pure none) (Q2 inp) := by
  refine SafeL.ite (fun _ => ?_) (fun _ => SafeL.skip)
  sb ((exprSpecs_all inp cfg n).expr _ _)
  sret

theorem stmtSpecs_step (n : Nat) (ih : StmtSpecs inp cfg n) : StmtSpecs inp cfg (n + 1) where
  itemListLoop := by
    intro terms acc
    rw [itemListLoop]
    sb pns
    refine SafeL.ite (fun _ => errorf_safe) (fun _ => ?_)
    sb ih.textOrAction
    refine SafeL.ite (fun _ => SafeL.skip) (fun _ => ?_)
    refine SafeL.ite (fun _ => errorf_safe) (fun _ => ih.itemListLoop _ _)
  itemList := by
    intro terms
    rw [itemList]
    sb pns
    sb (lineNumber_safe 2)
    sb (ih.itemListLoop _ _)
    sret
  textOrAction := by
    rw [textOrAction]
    sb nns
    refine SafeL.ite (fun _ => ?_) (fun _ => ?_)
    · sb (lineNumber_safe 1)
      sret
    · refine SafeL.ite (fun _ => ih.action.mono) (fun _ => unexpected_safe)
  action := by
    have E := exprSpecs_all inp cfg n
    rw [action]
    sb nns
    refine SafeL.ite (fun _ => ih.parseInclude.mono) (fun _ => ?_)
    refine SafeL.ite (fun _ => ih.parseBlock.mono) (fun _ => ?_)
    refine SafeL.ite (fun _ => ?_) (fun _ => ?_)
    · sb expectRD_safe
      sret
    refine SafeL.ite (fun _ => ih.parseYield.mono) (fun _ => ?_)
    refine SafeL.ite (fun _ => ?_) (fun _ => ?_)
    · sb expectRD_safe
      sret
    refine SafeL.ite (fun _ => (ih.parseControl _ _).mono) (fun _ => ?_)
    refine SafeL.ite (fun _ => ?_) (fun _ => ?_)
    · sb pns
      refine SafeL.ite (fun _ => ?_) (fun _ => ?_)
      · sb (lineNumber_safe 2)
        sret
      · sb expectRD_safe
        sb (lineNumber_safe 1)
        sret
    refine SafeL.ite (fun _ => (ih.parseControl _ _).mono) (fun _ => ?_)
    refine SafeL.ite (fun _ => ih.parseTry.mono) (fun _ => ?_)
    refine SafeL.ite (fun _ => ih.parseCatch.mono) (fun _ => ?_)
    refine SafeL.ite (fun _ => ?_) (fun _ => ?_)
    · sb (E.expr _ _)
      sb expectRD_safe
      sb (lineNumber_safe 1)
      sret
    sb bk
    sb pk2
    sb (lineNumber_safe 2)
    sb (assignmentOrExpression_safe inp cfg n _)
    split
    · sb expectOneOf_safe
      refine SafeL.ite (fun _ => ?_) (fun _ => ?_)
      · sb (E.expr _ _)
        sb (pipeline_safe inp cfg n _)
        sret
      · sret
    · sb (pipeline_safe inp cfg n _)
      sret
  parseInclude := by
    rw [parseInclude]
    sb ((exprSpecs_all inp cfg n).expr _ _)
    sb pns
    sb (optExpr_safe inp cfg n _ _ _)
    sb expectRD_safe
    sb (lineNumber_safe 1)
    sret
  parseBlock := by
    rw [parseBlock]
    sb (lineNumber_safe 2)
    sb expect_safe
    sb (blockParametersList_safe inp cfg n _ _)
    sb pns
    sb (optExpr_safe inp cfg n _ _ _)
    sb expectRD_safe
    sb (ih.itemList _)
    refine SafeL.bind (Q := Q2 inp) ?_ ?_
    · refine SafeL.ite (fun _ => ?_) (fun _ => SafeL.skip)
      sb (ih.itemList _)
      sret
    intro content
    sb (registerBlock_safe 2 _ _)
    sret
  parseYield := by
    have E := exprSpecs_all inp cfg n
    rw [parseYield]
    sb (lineNumber_safe 2)
    sb nns
    refine SafeL.ite (fun _ => ?_) (fun _ => ?_)
    · sb pns
      sb (optExpr_safe inp cfg n _ _ _)
      sb expectRD_safe
      sret
    refine SafeL.ite (fun _ => unexpected_safe) (fun _ => ?_)
    sb (blockParametersList_safe inp cfg n _ _)
    sb pns
    refine SafeL.ite (fun _ => ?_) (fun _ => ?_)
    · sb expectRD_safe
      sret
    refine SafeL.bind (Q := Q2 inp) ?_ ?_
    · refine SafeL.ite (fun _ => ?_) (fun _ => SafeL.skip)
      sb (E.expr _ _)
      sb pns
      sret
    intro p
    refine SafeL.ite (fun _ => ?_) (fun _ => ?_)
    · sb expectRD_safe
      sret
    refine SafeL.ite (fun _ => ?_) (fun _ => ?_)
    · sb nns
      sb expectRD_safe
      sb (ih.itemList _)
      sret
    · sb nns
      exact unexpected_safe
  parseControl := by
    have E := exprSpecs_all inp cfg n
    intro allowElseIf ctx
    rw [parseControl]
    sb (lineNumber_safe 2)
    refine SafeL.bind (Q := Q2 inp) ?_ ?_
    · sb (assignmentOrExpression_safe inp cfg n _)
      split
      · refine SafeL.ite (fun _ => ?_) (fun _ => SafeL.skip)
        sb expect_safe
        sb (E.expr _ _)
        sret
      · sret
    intro p
    sb expectRD_safe
    sb (ih.itemList _)
    refine SafeL.bind (Q := Q2 inp) ?_ ?_
    · refine SafeL.ite (fun _ => ?_) (fun _ => SafeL.skip)
      sb pk2
      refine SafeL.ite (fun _ => ?_) (fun _ => ?_)
      · sb nx
        sb (lineNumber_safe 1)
        sb (ih.parseControl _ _)
        sret
      · sb (ih.itemList _)
        sret
    intro els
    sret
  parseTry := by
    rw [parseTry]
    sb (lineNumber_safe 2)
    sb expectRD_safe
    sb (ih.itemList _)
    split
    split
    · sret
    · sret
  parseCatch := by
    rw [parseCatch]
    sb (lineNumber_safe 2)
    sb pns
    refine SafeL.bind (Q := Q2 inp) ?_ ?_
    · refine SafeL.ite (fun _ => ?_) (fun _ => SafeL.skip)
      sb (exprSpecs_all inp cfg n).term
      split
      · sb nx
        exact unexpected_safe
      · sret
      · exact errorf_safe
    intro errVar
    sb expectRD_safe
    sb (ih.itemList _)
    sret

theorem stmtSpecs_all : ∀ n, StmtSpecs inp cfg n
  | 0 => by constructor <;> intros <;> exact SafeL.outOfFuel
  | n + 1 => stmtSpecs_step inp cfg n (stmtSpecs_all n)

/-! ### the template level -/

theorem prologueLoop_safe : ∀ k skipped, Safe (I2 inp) (prologueLoop cfg k skipped) (Q2 inp)
  | 0, _ => SafeL.outOfFuel
  | k + 1, skipped => by
    rw [prologueLoop]
    sb pk2
    refine SafeL.ite (fun _ => SafeL.skip) (fun _ => ?_)
    -- what the lexer guarantees of the left delimiter is what `backup2` needs to put it back
    refine SafeL.bindF nxW fun delim wd => ?_
    refine SafeL.ite (fun _ => ?_) (fun _ => ?_)
    · sb (get_safe 1)
      refine SafeL.ite (fun _ => ?_) (fun _ => (prologueLoop_safe k _).mono)
      sb (lineNumber_safe 1)
      exact (prologueLoop_safe k _).mono
    refine SafeL.ite (fun hld => ?_) (fun _ => ?_)
    · sb nns
      refine SafeL.ite (fun _ => ?_) (fun _ => ?_)
      · sb (expectString_safe cfg)
        sb (get_safe 1)
        have jp : ∀ r : Unit, Safe (I1 inp) ((fun (_ : Unit) => do
            let _ ← expect Tok.rightDelim "extends|import" "closing delimiter"
            prologueLoop cfg k skipped) r) (Q2 inp) := by
          intro _
          sb expect_safe
          exact (prologueLoop_safe k _).mono
        dsimp only []
        refine SafeL.ite (fun _ => ?_) (fun _ => ?_)
        · refine SafeL.ite (fun _ => SafeL.bind errorf_safe jp) (fun _ => ?_)
          refine SafeL.ite (fun _ => SafeL.bind errorf_safe jp) (fun _ => ?_)
          split
          · exact SafeL.bind (modify_safe 1 _ fun _ => ⟨rfl, rfl⟩) jp
          · exact SafeL.bind errorf_safe jp
        · split
          · exact SafeL.bind (modify_safe 1 _ fun _ => ⟨rfl, rfl⟩) jp
          · exact SafeL.bind errorf_safe jp
      · sb (backup2_safe wd hld)
        sret
    · sb bk
      sret

theorem slot_eof {inp : Bytes} {s : PSt} (w : Wf inp s) (i : Nat) (h : (slotAt s i).typ = Tok.eof) : s.toks = [] := by
  unfold slotAt at h
  split at h
  · exact w.eof.2.1 h
  · exact w.eof.2.2.1 h
  · exact w.eof.2.2.2 h

abbrev Drained {α : Type} : α → PSt → Prop := fun _ s => Inv inp 2 s ∧ s.toks = []

theorem bodyLoop_drained (fuel : Nat) : ∀ k acc, Safe (I2 inp) (bodyLoop cfg fuel k acc) (Drained inp)
  | 0, _ => SafeL.outOfFuel
  | k + 1, acc => by
    rw [bodyLoop]
    refine SafeL.bind (peek_safe 2) ?_
    intro pk
    refine SafeL.ite (fun he => SafeL.pure _ (fun s h => ⟨h.1, slot_eof h.1.1 _ (h.2.2.2 ▸ he)⟩)) (fun _ => ?_)
    refine SafeL.bind ((stmtSpecs_all inp cfg fuel).textOrAction.pre (fun _ h => h.1)) ?_
    intro nd
    refine SafeL.ite (fun _ => errorf_safe) (fun _ => bodyLoop_drained fuel k _)

theorem parseTemplate_drained (fuel : Nat) : Safe (I2 inp) (parseTemplate cfg fuel) (Drained inp) := by
  unfold parseTemplate
  sb pk2
  sb (lineNumber_safe 2)
  sb (get_safe 2)
  sb (prologueLoop_safe inp cfg _ _)
  sb (get_safe 2)
  sb (bodyLoop_drained inp cfg fuel _ _)
  exact SafeL.skip

theorem parseTemplate_safe (fuel : Nat) : Safe (I2 inp) (parseTemplate cfg fuel) (Q2 inp) :=
  (parseTemplate_drained inp cfg fuel).post fun _ _ h => h.1

/-- the state `Set.parse` starts the parser in -/
theorem initial_inv (input name : Bytes) (toks : List Item) (h : ∀ t ∈ toks, WfItem input t) (he : EofLast toks) :
    Inv input 2 { input := input, name := name, toks := toks } :=
  ⟨⟨rfl, h, wfItem_zero input, wfItem_zero input, wfItem_zero input, Int.le_refl 0, by simp,
    ⟨he, by simp [Item.zero], by simp [Item.zero], by simp [Item.zero]⟩⟩, by simp⟩

end JetVerif.Parse
