/-
  A binary level of the precedence ladder of the expression productions, and the five there are.  What is
  proved of a `Level` holds of `multiplicativeExpression … logicalExpression` alike: the grouping the ladder
  computes (`enter` … `single` below, used by Lemmas/ParseLadderBase.lean and Lemmas/ParseLadder.lean), the look-ahead discipline
  (Lemmas/ParseNoCrash.lean), the fuel bound (Lemmas/ParseTermProd.lean).
-/
import JetVerif.Lemmas.ParseBasics

namespace JetVerif.Parse

def isMulT (t : Tok) : Prop := Tok.mul.code ≤ t.code ∧ t.code ≤ Tok.mod.code
def isRelT (t : Tok) : Prop := Tok.great.code ≤ t.code ∧ t.code ≤ Tok.lessEquals.code

instance : DecidablePred isMulT := fun _ => inferInstanceAs (Decidable (_ ∧ _))
instance : DecidablePred isRelT := fun _ => inferInstanceAs (Decidable (_ ∧ _))

/-- One binary level of the precedence ladder: `expr` reads a `lower` expression and hands it to `loop`,
    which, as long as the item behind it is an operator of the level, reads another `lower` and folds
    to the left.  The functions are parameters, not fields: the unifier unfolds `multiplicativeLoop cfg (k + 1)`
    when it has to compare it with a projection `L.loop (k + 1)`. -/
structure Level (expr lower : Nat → String → PM (PExpr × Item))
    (loop : Nat → String → PExpr → Item → PM (PExpr × Item)) (kind : BinKind) (isOp : Tok → Prop) : Prop where
  expr_succ : ∀ n ctx, expr (n + 1) ctx = lower n ctx >>= fun p => loop n ctx p.1 p.2
  loop_op : ∀ n ctx l (e : Item), isOp e.typ → loop (n + 1) ctx l e =
    lower n ctx >>= fun p => lineNumber >>= fun ln => loop n ctx (.binary kind ln e.typ (some l) p.1) p.2
  loop_stop : ∀ n ctx l (e : Item) s, ¬ isOp e.typ → loop (n + 1) ctx l e s = .ok (l, e) s

namespace Level
variable {expr lower : Nat → String → PM (PExpr × Item)} {loop : Nat → String → PExpr → Item → PM (PExpr × Item)}
  {kind : BinKind} {isOp : Tok → Prop} (L : Level expr lower loop kind isOp)
include L

theorem enter {k : Nat} {ctx : String} {s s' : PSt} {t : PExpr} {u : Item}
    (h : lower k ctx s = .ok (t, u) s') : expr (k + 1) ctx s = loop k ctx t u s' := by
  simp [L.expr_succ, bind_apply, h]

/-- one turn of the loop; stated at the ladder's states `mkS … 0`, where the `lineNumber` of `loop_op` answers 1 -/
theorem step {k : Nat} {ctx : String} {b : PSt} {ts rest : List Item} {op u : Item} {l r : PExpr}
    (hop : isOp op.typ) (h : lower k ctx (mkS b ts op 0) = .ok (r, u) (mkS b rest u 0)) :
    loop (k + 1) ctx l op (mkS b ts op 0) = loop k ctx (.binary kind 1 op.typ (some l) r) u (mkS b rest u 0) := by
  simp [L.loop_op _ _ _ _ hop, bind_apply, h]

/-- `H` is what the ladder proves of a chain of `i` operators (`Ladder2` … `Ladder6` of Lemmas/ParseLadder.lean): reading
    it from `s` is being in the loop with its left-folded tree `t` -/
theorem finish {i n : Nat} {ctx : String} {s s' : PSt} {t : PExpr} {u : Item}
    (H : ∀ k, k + i + 1 = n → expr (k + i + 1) ctx s = loop k ctx t u s') (hi : i + 2 ≤ n)
    (hu : ¬ isOp u.typ) : expr n ctx s = .ok (t, u) s' := by
  obtain ⟨k, rfl⟩ : ∃ k, n = (k + 1) + i + 1 := ⟨n - i - 2, by omega⟩
  rw [H (k + 1) rfl]
  exact L.loop_stop k ctx t u s' hu

theorem single {k : Nat} {ctx : String} {s s' : PSt} {t : PExpr} {u : Item}
    (h : lower (k + 1) ctx s = .ok (t, u) s') (hu : ¬ isOp u.typ) : expr (k + 2) ctx s = .ok (t, u) s' := by
  rw [L.enter h]; exact L.loop_stop k ctx t u s' hu

end Level

variable (cfg : Cfg)

theorem mulLevel : Level (multiplicativeExpression cfg) (unaryExpression cfg) (multiplicativeLoop cfg) .mul isMulT where
  expr_succ n ctx := by rw [multiplicativeExpression]
  loop_op n ctx l e h := by rw [multiplicativeLoop]; exact if_pos h
  loop_stop n ctx l e s h := by rw [multiplicativeLoop]; exact congrFun (if_neg h) s

theorem addLevel : Level (additiveExpression cfg) (multiplicativeExpression cfg) (additiveLoop cfg) .add
    (fun t => t = Tok.add ∨ t = Tok.minus) where
  expr_succ n ctx := by rw [additiveExpression]
  loop_op n ctx l e h := by rw [additiveLoop]; exact if_pos h
  loop_stop n ctx l e s h := by rw [additiveLoop]; exact congrFun (if_neg h) s

theorem relLevel : Level (numericComparativeExpression cfg) (additiveExpression cfg) (numericComparativeLoop cfg)
    .numcmp isRelT where
  expr_succ n ctx := by rw [numericComparativeExpression]
  loop_op n ctx l e h := by rw [numericComparativeLoop]; exact if_pos h
  loop_stop n ctx l e s h := by rw [numericComparativeLoop]; exact congrFun (if_neg h) s

theorem eqLevel : Level (comparativeExpression cfg) (numericComparativeExpression cfg) (comparativeLoop cfg) .cmp
    (fun t => t = Tok.equals ∨ t = Tok.notEquals) where
  expr_succ n ctx := by rw [comparativeExpression]
  loop_op n ctx l e h := by rw [comparativeLoop]; exact if_pos h
  loop_stop n ctx l e s h := by rw [comparativeLoop]; exact congrFun (if_neg h) s

theorem logLevel : Level (logicalExpression cfg) (comparativeExpression cfg) (logicalLoop cfg) .logic
    (fun t => t = Tok.and_ ∨ t = Tok.or_) where
  expr_succ n ctx := by rw [logicalExpression]
  loop_op n ctx l e h := by rw [logicalLoop]; exact if_pos h
  loop_stop n ctx l e s h := by rw [logicalLoop]; exact congrFun (if_neg h) s

end JetVerif.Parse
