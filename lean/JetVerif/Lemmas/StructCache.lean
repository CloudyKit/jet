/-
  `StructCache.loop` / `build` (Model/StructCache.lean): the loop as a fold over the fields, and the
  invariant rules every property of the field table (Props/C06) is an instance of.
-/
import JetVerif.Model.StructCache

namespace JetVerif.StructCache
open JetVerif JetVerif.Eval

/-- what the loop does with one exported field -/
def visit (descend : List F → List Nat → Cache → Cache) (index : List Nat) (f : F) (c : Cache) : Cache :=
  put f.name index (if f.anonymous && f.isStruct then descend f.sub index c else c)

section
variable (descend : List F → List Nat → Cache → Cache) (parent : List Nat)

theorem loop_cons (i : Nat) (f : F) (rest : List F) (c : Cache) :
    loop descend parent i (f :: rest) c =
      loop descend parent (i + 1) rest (if f.exported then visit descend (parent ++ [i]) f c else c) := by
  rw [loop, visit]; cases f.exported <;> rfl

/-- the loop is a fold over the fields with their positions -/
theorem loop_eq_foldl : ∀ (rest : List F) (i : Nat) (c : Cache),
    loop descend parent i rest c =
      (rest.zipIdx i).foldl (fun c fj => if fj.1.exported then visit descend (parent ++ [fj.2]) fj.1 c else c) c
  | [], _, _ => rfl
  | f :: rest, i, c => by rw [loop_cons, loop_eq_foldl rest, List.zipIdx_cons, List.foldl_cons]

theorem loop_append (pre post : List F) (i : Nat) (c : Cache) :
    loop descend parent i (pre ++ post) c =
      loop descend parent (i + pre.length) post (loop descend parent i pre c) := by
  simp only [loop_eq_foldl, List.zipIdx_append, List.foldl_append]

/-- **Invariant rule for the field loop**: what every exported field's visit keeps, the loop keeps
    (`j` is the field's position in `rest`) -/
theorem loop_inv (I : Cache → Prop) (rest : List F) (i : Nat) (c : Cache) (hc : I c)
    (hv : ∀ j f c, rest[j]? = some f → f.exported = true → I c → I (visit descend (parent ++ [i + j]) f c)) :
    I (loop descend parent i rest c) := by
  rw [loop_eq_foldl]
  refine List.foldlRecOn (motive := I) _ _ hc fun c hc ⟨f, k⟩ hfk => ?_
  obtain ⟨j, rfl⟩ := Nat.exists_eq_add_of_le (List.mem_zipIdx hfk).1
  split
  · exact hv j f c (List.mk_add_mem_zipIdx_iff_getElem?.mp hfk) ‹_› hc
  · exact hc

end

/-- **… and for the whole recursion**; `Q parent fs` is what is known of a struct reached by `parent` -/
theorem build_inv (I : Cache → Prop) (Q : List Nat → List F → Prop)
    (hQ : ∀ parent fs i f, Q parent fs → fs[i]? = some f → f.exported = true →
      (f.anonymous && f.isStruct) = true → Q (parent ++ [i]) f.sub)
    (hput : ∀ parent fs i f c, Q parent fs → fs[i]? = some f → f.exported = true → I c →
      I (put f.name (parent ++ [i]) c)) :
    ∀ (fuel : Nat) (fs : List F) (parent : List Nat) (c : Cache), Q parent fs → I c → I (build fuel fs parent c)
  | 0, _, _, _, _, hc => hc
  | n + 1, fs, parent, c, hq, hc => by
    refine loop_inv (build n) parent I fs 0 c hc fun j f c hf he h => ?_
    rw [Nat.zero_add]
    refine hput parent fs j f _ hq hf he ?_
    split
    · exact build_inv I Q hQ hput n f.sub _ c (hQ parent fs j f hq hf he ‹_›) h
    · exact h

end JetVerif.StructCache
