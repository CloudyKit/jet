/-
  The plumbing of the evaluator, walked once.

  Most functions of Model/Eval.lean only combine the primitives of the runtime with `pure`, bind,
  `if` and `match`.  Any property `H` of computations that these combinators preserve and that
  holds of the primitives (`Walk`) therefore holds of every such function: one lemma `f_ok` /
  `walk_f` per function.  `Good` (Lemmas/EvalGood.lean), `Scoped` (Lemmas/EvalScope.lean) and `Tot`
  (Lemmas/EvalTotal.lean) are such properties.

  What is NOT walked here is where each invariant has something of its own to say: the content
  closure (`yieldBody`, `invokeContent`, `execYield`), `executeTry`, and the let-scope of a
  statement list (`execListGo`, `execListF`; of a statement the walk says whether it opens that scope and
  that what it runs besides is `H`: `execStmt_shape`).

  Names.  `f_ok`: `H (f …)` from `W : Walk Ok H` and `H` of what `f` calls.  In the three instance files `good_f`,
  `scoped_f`, `tot_f` state the invariant of `f` (`totq_f`: with a postcondition on the value), and `post_f`, `spost_f`,
  `tpost_f` state its postcondition at one runtime, under hypotheses on that runtime.
-/
import JetVerif.Lemmas.EvalHelpers

namespace JetVerif.Eval

/-- `Ok` is the set of crash messages `H` tolerates.  What only returns or fails is a lifted helper (`liftP`), what
    only looks at the runtime is covered by `reads`, the three printing primitives by `emits`. -/
structure Walk (Ok : String → Prop) (H : ∀ {α : Type}, M α → Prop) : Prop where
  bind {α β} {m : M α} {f : α → M β} : H m → (∀ a, H (f a)) → H (m >>= f)
  liftP {α} (p : P α) : PCr Ok p → H (liftP p)
  reads {α} {m : M α} : (∀ rt, ∃ a, m rt = .ok a rt) → H m
  emits {m : M Unit} : Emits m → H m
  modifyLog (f : List LogE → List LogE) : H (modifyRT fun rt => { rt with log := f rt.log })
  letVar (n : Bytes) (v : Val) : H (letVar n v)
  setValue (n : Bytes) (v : Val) : H (setValue n v)
  letGlobal (n : Bytes) (v : Val) : H (letGlobal n v)
  withNewScopeND {α} {body : M α} : H body → H (withNewScopeND body)
  withNewScopeD {α} {body : M α} : H body → H (withNewScopeD body)
  withCtxND {α} (v : Val) {body : M α} : H body → H (withCtxND v body)
  withCtxD {α} {e : M Val} {body : M α} : H e → H body → H (withCtxD e body)
  discard {α} {body : M α} : H body → H (withWriterD .discard body)
  recoverFalse {m : M Bool} : H m → H (recoverFalse m)

section
variable {Ok : String → Prop} {H : ∀ {α : Type}, M α → Prop}

theorem Walk.pure (W : Walk Ok H) {α} (a : α) : H (pure a : M α) := W.reads fun _ => ⟨a, rfl⟩
theorem Walk.getRT (W : Walk Ok H) : H getRT := W.reads fun rt => ⟨rt, rfl⟩
theorem Walk.resolve (W : Walk Ok H) (env : Env) (n : Bytes) : H (resolve env n) := W.reads (resolve_rt env n)
theorem Walk.getBlock (W : Walk Ok H) (n : Bytes) : H (getBlock n) := W.reads fun _ => ⟨_, rfl⟩
theorem Walk.err (W : Walk Ok H) {α} (e : Err) : H (throwErr e : M α) := W.liftP (throwErr e) (pcr_err e)
theorem Walk.unsupported (W : Walk Ok H) {α} (w : String) : H (unsupported w : M α) :=
  W.liftP (Eval.unsupported w) (pcr_unsupported w)
theorem Walk.crash (W : Walk Ok H) {α} (s : String) (h : Ok s) : H (crash s : M α) :=
  W.liftP (Eval.crash s) ((pcr_crash s).mpr h)
theorem Walk.writeLit (W : Walk Ok H) (b : Bytes) : H (writeLit b) := W.emits (writeLit_emits b)
theorem Walk.printEscaped (W : Walk Ok H) (env : Env) (v : Val) : H (printEscaped env v) :=
  W.emits (printEscaped_emits env v)
theorem Walk.printSafe (W : Walk Ok H) (sw : String) (v : Val) : H (printSafe sw v) := W.emits (printSafe_emits sw v)
theorem Walk.logE (W : Walk Ok H) (e : LogE) : H (logE e) := W.modifyLog (e :: ·)
theorem Walk.addLog (W : Walk Ok H) (l : List LogE) : H (modifyRT fun rt => { rt with log := l ++ rt.log }) :=
  W.modifyLog (l ++ ·)

theorem Walk.errAt (W : Walk Ok H) {α} (l : Loc) (s : String) : H (errAt l s : M α) := W.err _
theorem Walk.errPlain (W : Walk Ok H) {α} (s : String) : H (errPlain s : M α) := W.err _

theorem Walk.ite (_ : Walk Ok H) {α} {c : Prop} [Decidable c] {a b : M α} (ha : H a) (hb : H b) :
    H (if c then a else b) := by
  split <;> assumption

theorem Walk.liftOpt (W : Walk Ok H) {α} (w : String) (o : Option α) : H (liftOpt w o : M α) := by
  cases o
  · exact W.unsupported w
  · exact W.pure _

end

/-- an arm that returns or fails outright -/
macro "leaf " W:term : tactic => `(tactic| first
  | exact Walk.pure $W _ | exact Walk.unsupported $W _ | exact Walk.errAt $W _ _
  | exact Walk.errPlain $W _ | exact Walk.liftOpt $W _ _)

/-! ### pieces whose recursive calls are hypotheses
    The hypotheses name exactly the calls a function makes one level down, so that `Tot`, which knows
    `r.evalExpr` on well-formed syntax only, can use these lemmas too. -/

section
variable {Ok : String → Prop} {H : ∀ {α : Type}, M α → Prop} (W : Walk Ok H)
  {r : Rec} {env : Env} {a : Args}
include W

section args
variable (he : ∀ e ∈ a.exprs, H (r.evalExpr env e))
include he

theorem Args.exprAt_ok (j : Nat) : H (a.exprAt r env j) := by
  unfold Args.exprAt
  split
  · next e h =>
    refine W.ite ?_ (he e (List.mem_of_getElem? h))
    split
    · exact W.pure _
    · exact W.errAt _ _
  · exact W.pure _

theorem Args.get_ok (i : Nat) : H (a.get r env i) := by
  unfold Args.get
  split
  · exact W.ite (W.ite (W.pure _) (Args.exprAt_ok W he _)) (Args.exprAt_ok W he _)
  · exact Args.exprAt_ok W he _

theorem sliceLoop_ok : ∀ f i acc, H (sliceLoop r env a f i acc)
  | 0, _, _ => W.pure _
  | f + 1, i, acc => by
    unfold sliceLoop
    exact W.ite (W.pure _) (W.bind (Args.get_ok W he i) fun v => W.ite (W.errPlain _) (sliceLoop_ok f _ _))

theorem recLoop_ok : ∀ f i acc, H (recLoop r env a f i acc)
  | 0, _, _ => W.pure _
  | f + 1, i, acc => by
    unfold recLoop
    exact W.ite (W.pure _) (W.bind (Args.get_ok W he i) fun v => recLoop_ok f _ _)

theorem mapLoop_ok : ∀ f i acc, H (mapLoop r env a f i acc)
  | 0, _, _ => W.pure _
  | f + 1, i, acc => by
    unfold mapLoop
    refine W.ite (W.pure _) (W.bind (Args.get_ok W he i) fun k => W.ite (W.errPlain _) ?_)
    split
    · refine W.bind (Args.get_ok W he i) fun k2 => W.bind (Args.get_ok W he _) fun v => ?_
      split
      · exact W.ite (mapLoop_ok f _ _) (mapLoop_ok f _ _)
      · exact W.unsupported _
    all_goals leaf W

theorem parse3Func_ok : H (parse3Func r env a) := by
  have hg := Args.get_ok W he
  unfold parse3Func
  refine W.ite (W.errPlain _) ?_
  refine W.bind (W.ite (W.bind (hg 0) fun x => W.ite (W.errPlain _) (W.bind (W.liftP _ (parseIntoInt_pcr _))
    fun i => W.pure _)) (W.pure _)) fun g0 => ?_
  refine W.bind (W.ite (W.bind (hg 1) fun x => ?_) (W.pure _)) fun g1 => ?_
  · split <;> leaf W
  refine W.bind (W.ite (W.bind (hg 2) fun x => W.ite (W.errPlain _) (W.pure _)) (W.pure _)) fun g2 => ?_
  split
  · split <;> leaf W
  · exact W.errPlain _

end args

section isset
variable (hs : ∀ e ∈ a.exprs, H (r.isSetE env e))
include hs

theorem Args.isSetAt_ok (j : Nat) : H (a.isSetAt r env j) := by
  unfold Args.isSetAt
  split
  · next e h =>
    refine W.ite ?_ (hs e (List.mem_of_getElem? h))
    split <;> exact W.pure _
  · exact W.pure _

theorem Args.isSet_ok (i : Nat) : H (a.isSet r env i) := by
  unfold Args.isSet
  split
  · exact W.ite (W.ite (W.pure _) (Args.isSetAt_ok W hs _)) (Args.isSetAt_ok W hs _)
  · exact Args.isSetAt_ok W hs _

theorem issetLoop_ok : ∀ f i, H (issetLoop r env a f i)
  | 0, _ => W.pure _
  | f + 1, i => by
    unfold issetLoop
    exact W.ite (W.pure _) (W.bind (Args.isSet_ok W hs i) fun s => W.ite (W.pure _) (issetLoop_ok f _))

theorem recsetLoop_ok : ∀ f i acc, H (recsetLoop r env a f i acc)
  | 0, _, _ => W.pure _
  | f + 1, i, acc => by
    unfold recsetLoop
    exact W.bind (Args.isSet_ok W hs i) fun t => recsetLoop_ok f _ _

end isset

variable (he : ∀ e ∈ a.exprs, H (r.evalExpr env e)) (hs : ∀ e ∈ a.exprs, H (r.isSetE env e))
include he hs

/-- the harness's wrappers around the Runtime API: one line per function -/
theorem applyApiFunc_ok (hy : ∀ n c, H (yieldBlockApi r env n c)) (id : String) : H (applyApiFunc r env id a) := by
  have hg := Args.get_ok W he
  have two : ∀ {k : Bytes → Val → M Val}, (∀ n v, H (k n v)) →
      H (if a.num != 2 then errPlain "unexpected number of arguments" else do
        let n ← a.get r env 0
        let v ← a.get r env 1
        let name ← liftP (apiName n)
        k name v) := fun hk =>
    W.ite (W.errPlain _) (W.bind (hg 0) fun n => W.bind (hg 1) fun v =>
      W.bind (W.liftP _ (apiName_pcr n)) fun name => hk _ _)
  unfold applyApiFunc
  exact
    W.ite (two fun n v => W.bind (W.letVar _ _) fun _ => W.pure _) <|
    W.ite (two fun n v => W.bind (W.setValue _ _) fun ok => W.ite (W.pure _) (W.errPlain _)) <|
    W.ite (two fun n v => W.bind (W.setValue _ _) fun ok =>
      W.ite (W.pure _) (W.bind (W.letVar _ _) fun _ => W.pure _)) <|
    W.ite (two fun n v => W.bind (W.letGlobal _ _) fun _ => W.pure _) <|
    W.ite (W.ite (W.errPlain _) (W.bind (hg 0) fun n => W.bind (W.liftP _ (apiName_pcr n)) fun name =>
      W.bind (W.resolve env name) fun o => by cases o <;> exact W.pure _)) <|
    W.ite (W.ite (W.errPlain _) (W.bind W.getRT fun rt => W.pure _)) <|
    W.ite (W.ite (W.errPlain _) (W.bind (hg 0) fun n => W.bind (W.liftP _ (apiName_pcr n)) fun name =>
      W.bind (W.ite (W.bind (hg 1) fun c => W.pure _) (W.pure _)) fun ctx =>
        W.bind (hy name ctx) fun _ => W.pure _)) <|
    W.ite (recsetLoop_ok W hs _ _ _) <|
    W.ite (parse3Func_ok W he) (W.unsupported _)

/-- the jet.Func built-ins: one line per function -/
theorem applyJetFunc_ok (hy : ∀ n c, H (yieldBlockApi r env n c)) (hx : ∀ b, H (execBuiltin r env b a))
    (id : String) : H (applyJetFunc r env id a) := by
  have hg := Args.get_ok W he
  unfold applyJetFunc
  exact
    W.ite (W.ite (W.errPlain _) (issetLoop_ok W hs _ _)) <|
    W.ite (W.ite (W.errPlain _) (W.bind (hg 0) fun v => W.liftP _ (lenOf_pcr v))) <|
    W.ite (W.ite (W.errPlain _) <| W.ite (W.unsupported _) <|
      W.bind (hg 0) fun f => W.bind (W.liftP _ (parseIntoInt_pcr f)) fun f =>
      W.bind (hg 1) fun t => W.bind (W.liftP _ (parseIntoInt_pcr t)) fun t =>
        W.ite (W.errPlain _) (W.pure _)) <|
    W.ite (sliceLoop_ok W he _ _ _) <|
    W.ite (W.ite (W.errPlain _) (mapLoop_ok W he _ _ _)) <|
    W.ite (hx true) <|
    W.ite (hx false) <|
    W.ite (W.bind (W.logE _) fun _ => recLoop_ok W he _ _ _) <|
    applyApiFunc_ok W he hs hy _

omit he hs

theorem isSetBody_ok (e : Expr)
    (hidx : ∀ l b i, e = .index l b i →
      H (r.isSetE env b) ∧ H (r.isSetE env i) ∧ H (r.evalExpr env b) ∧ H (r.evalExpr env i))
    (hch : ∀ l b fs, e = .chain l b fs → H (r.evalExpr env b)) : H (isSetBody r env e) := by
  have notNil := fun v => W.liftP _ (notNilP_pcr (Ok := Ok) v)
  unfold isSetBody
  split
  · obtain ⟨s1, s2, e1, e2⟩ := hidx _ _ _ rfl
    exact W.bind s1 fun b1 => W.ite (W.pure _) <| W.bind s2 fun b2 => W.ite (W.pure _) <|
      W.bind e1 fun bv => W.bind e2 fun iv => W.bind (W.liftP _ (resolveIndex_pcr bv iv none)) fun x => notNil x
  · refine W.bind (W.resolve env _) fun o => ?_
    cases o <;> first | exact notNil _ | exact W.pure _
  · exact W.bind W.getRT fun rt => W.liftP _ (isSetFieldPath_pcr _ _)
  · exact W.bind (hch _ _ _ rfl) fun bv => W.bind (W.liftP _ (evalChainFields_pcr _ _)) fun x => notNil x
  · exact W.pure _

theorem evalSafeWriter_ok (sw : String) (piped : Option Val) {args : List Expr}
    (he : ∀ e ∈ args, H (r.evalExpr env e)) : H (evalSafeWriter r env sw piped args) := by
  have loop : ∀ es, (∀ e ∈ es, H (r.evalExpr env e)) → H (safeWriterLoop r env sw es) := fun es => by
    induction es with
    | nil => exact fun _ => W.pure _
    | cons e rest ih =>
      exact fun h => W.bind (h e List.mem_cons_self) fun v => W.bind (W.printSafe sw v) fun _ =>
        ih fun e' h' => h e' (List.mem_cons_of_mem _ h')
  unfold evalSafeWriter
  cases piped
  · exact loop args he
  · exact W.bind (W.printSafe _ _) fun _ => loop args he

/-- `hcall`: the call is made only after the kind test -/
theorem evalCommand_ok (c : Cmd) (hb : H (r.evalExpr env c.base)) (he : ∀ e ∈ c.args, H (r.evalExpr env e))
    (hcall : ∀ fn, kindIsFunc fn = true →
      H (callAt r env c.base.loc fn { exprs := c.args, hasSlot := c.hasSlot, piped := none })) :
    H (evalCommand r env c) := by
  unfold evalCommand
  refine W.bind hb fun term => W.ite ?_ (W.pure _)
  split
  · exact W.bind (evalSafeWriter_ok W _ _ he) fun _ => W.pure _
  · exact W.unsupported _
  · split
    · next hk => exact W.bind (hcall _ hk) fun v => W.pure _
    · split <;> exact W.errAt _ _

theorem evalCommandPipe_ok (c : Cmd) (v : Val) (hb : H (r.evalExpr env c.base))
    (he : ∀ e ∈ c.args, H (r.evalExpr env e))
    (hcall : ∀ fn, kindIsFunc fn = true →
      H (callAt r env c.base.loc fn { exprs := c.args, hasSlot := c.hasSlot, piped := some v })) :
    H (evalCommandPipe r env c v) := by
  unfold evalCommandPipe
  refine W.bind hb fun term => W.ite (W.errAt _ _) ?_
  split
  · exact W.unsupported _
  · exact W.bind (evalSafeWriter_ok W _ _ he) fun _ => W.pure _
  · split
    · exact W.errAt _ _
    · next hk => exact W.bind (hcall _ (by simpa using hk)) fun v => W.pure _

theorem pipelineLoop_ok : ∀ cs acc, (∀ c ∈ cs, ∀ v, H (evalCommandPipe r env c v)) → H (pipelineLoop r env acc cs)
  | [], _, _ => W.pure _
  | c :: cs, acc, h => by
    unfold pipelineLoop
    exact W.ite (W.errAt _ _) (W.bind (h c List.mem_cons_self _) fun nxt =>
      pipelineLoop_ok cs nxt fun c' h' => h c' (List.mem_cons_of_mem _ h'))

theorem actionPipe_ok (pipe : Option Pipe) (hp : ∀ p, pipe = some p → H (evalPipeline r env p)) :
    H (actionPipe r env pipe) := by
  unfold actionPipe
  split
  · refine W.bind (hp _ rfl) fun x => W.ite ?_ (W.pure _)
    split <;> first | exact W.pure _ | exact W.unsupported _ | exact W.printEscaped _ _
  · exact W.pure _

/-- the `match` on the context expression that `yieldBody` and `invokeContent` share -/
theorem yieldRun_ok (body : List Stmt) (ctxE : Option Expr) (he : ∀ e, ctxE = some e → H (r.evalExpr env e))
    (hb : H (r.execList env body)) :
    H (match (generalizing := false) ctxE with
      | some e => do
        let nv ← r.evalExpr env e
        withCtxND nv (do let _ ← r.execList env body; pure ())
      | none => do
        let _ ← r.execList env body
        pure () : M Unit) := by
  cases ctxE
  · exact W.bind hb fun _ => W.pure _
  · exact W.bind (he _ rfl) fun nv => W.withCtxND nv (W.bind hb fun _ => W.pure _)

theorem bindYieldParams_ok (loc : Loc) :
    ∀ ps, (∀ p ∈ ps, ∀ e, p.dflt = some e → H (r.evalExpr env e)) → H (bindYieldParams r env loc ps)
  | [], _ => W.pure _
  | p :: ps, h => by
    unfold bindYieldParams
    split
    · exact W.errAt _ _
    · next e he =>
      exact W.bind (h p List.mem_cons_self e he) fun v => W.bind (W.letVar _ _) fun _ =>
        bindYieldParams_ok loc ps fun q hq => h q (List.mem_cons_of_mem _ hq)

theorem bindBlockParams_ok :
    ∀ ps, (∀ p ∈ ps, ∀ e, p.dflt = some e → H (r.evalExpr env e)) → H (bindBlockParams r env ps)
  | [], _ => W.pure _
  | p :: ps, h => by
    have rest := bindBlockParams_ok ps fun q hq => h q (List.mem_cons_of_mem _ hq)
    unfold bindBlockParams
    refine W.bind W.getRT fun rt => W.ite ?_ rest
    split
    · exact W.bind (W.letVar _ _) fun _ => rest
    · next e he => exact W.bind (h p List.mem_cons_self e he) fun v => W.bind (W.letVar _ _) fun _ => rest

theorem executeYieldBlock_ok (loc : Loc) (block : BlockN) (bp yp : List Param) (ctxE : Option Expr)
    (content : Option (List Stmt)) (hyp : H (bindYieldParams r env loc yp)) (hbp : H (bindBlockParams r env bp))
    (hy : H (yieldBody r env block ctxE content)) :
    H (executeYieldBlock r env loc block bp yp ctxE content) := by
  unfold executeYieldBlock
  exact W.ite (W.withNewScopeND <| W.bind hyp fun _ => W.bind hbp fun _ => hy) hy

theorem rangeLoop_ok (set : Option SetN) (ks vs : Option Nat) (body : List Stmt) (els : Option (List Stmt))
    (hk : ∀ v, H (rangeBind r env set ks v)) (hv : ∀ v, H (rangeBind r env set vs v))
    (hb : H (r.execList env body)) (hels : ∀ l, els = some l → H (r.execList env l)) :
    ∀ f st first, H (rangeLoop r env set ks vs body els f st first)
  | 0, _, _ => W.unsupported _
  | f + 1, st, first => by
    unfold rangeLoop
    refine W.ite (W.ite ?_ (W.pure _)) ?_
    · cases els <;> first | exact W.pure _ | exact hels _ rfl
    · exact W.bind (hk _) fun _ => W.bind (hv _) fun _ =>
        W.bind (W.ite (W.withCtxND _ hb) hb) fun ret =>
        W.ite (W.pure _) (rangeLoop_ok set ks vs body els hk hv hb hels f _ _)

theorem tryCatch_ok (hasCatch : Bool) (cv : Option Bytes) (cb : Option (List Stmt)) (errVal : Val)
    (hcb : ∀ l, cb = some l → H (r.execList env l)) : H (tryCatch r env hasCatch cv cb errVal) := by
  have run : H (match (generalizing := false) cb with
      | some l => r.execList env l
      | none => pure .invalid) := by
    cases cb <;> first | exact W.pure _ | exact hcb _ rfl
  unfold tryCatch
  refine W.ite (W.pure _) ?_
  cases cv
  · exact run
  · exact W.withNewScopeND (W.bind (W.letVar _ _) fun _ => run)

theorem ifBranches_ok (c : Expr) (t : List Stmt) (e : Option (List Stmt)) (hc : H (r.evalExpr env c))
    (ht : H (r.execList env t)) (he : ∀ l, e = some l → H (r.execList env l)) : H (ifBranches r env c t e) := by
  unfold ifBranches
  refine W.bind hc fun cv => W.bind (W.liftOpt _ _) fun b => W.ite ht ?_
  cases e <;> first | exact W.pure _ | exact he _ rfl

theorem execIf_ok (set : Option SetN) (c : Expr) (t : List Stmt) (e : Option (List Stmt))
    (hs : ∀ st, set = some st → H (executeAssign r env st)) (hb : H (ifBranches r env c t e)) :
    H (execIf r env set c t e) := by
  unfold execIf
  split
  · exact W.ite (W.withNewScopeND (W.bind (hs _ rfl) fun _ => hb)) (W.bind (hs _ rfl) fun _ => hb)
  · exact hb

/-- what `evalExprF` asks of one level down: `H` of evaluating each operand it evaluates; of a product,
    that its operator is one of the three the parser builds or the panic is tolerated; of a call, `H` of
    the call itself once the callee has passed the kind test -/
def OperandsOk (Ok : String → Prop) (H : ∀ {α : Type}, M α → Prop) (r : Rec) (env : Env) : Expr → Prop
  | .chain _ x _ | .not _ x => H (r.evalExpr env x)
  | .add _ _ l x => (∀ y, l = some y → H (r.evalExpr env y)) ∧ H (r.evalExpr env x)
  | .mul _ op l x => H (r.evalExpr env l) ∧ H (r.evalExpr env x) ∧
      ((op = Tok.mul ∨ op = Tok.div ∨ op = Tok.mod) ∨ Ok "unreachable operator")
  | .cmp _ _ l x | .numcmp _ _ l x | .logic _ _ l x | .index _ l x => H (r.evalExpr env l) ∧ H (r.evalExpr env x)
  | .ternary _ c l x => H (r.evalExpr env c) ∧ H (r.evalExpr env l) ∧ H (r.evalExpr env x)
  | .call loc f args _ hasSlot => H (r.evalExpr env f) ∧ ∀ fv, kindIsFunc fv = true →
      H (callAt r env loc fv { exprs := args, hasSlot := hasSlot, piped := none })
  | .slice _ x i j => H (r.evalExpr env x) ∧ (∀ y, i = some y → H (r.evalExpr env y)) ∧
      ∀ y, j = some y → H (r.evalExpr env y)
  | _ => True

/-- `evalPrimaryExpressionGroup` / `evalBaseExpressionGroup`: one case per node kind -/
theorem evalExprF_ok (e : Expr) (h : OperandsOk Ok H r env e) : H (evalExprF r env e) := by
  have isTrue : ∀ v, H (liftOpt "isTrue" (Val.isTrue v) : M Bool) := fun v => W.liftOpt _ _
  cases e with
  | nilLit | boolLit | strLit => exact W.pure _
  | numLit => exact W.ite (W.pure _) (W.ite (W.pure _) (W.ite (W.pure _) (W.errAt _ _)))
  | ident loc name =>
    refine W.bind (W.resolve env name) fun o => ?_
    cases o <;> first | exact W.pure _ | exact W.errAt _ _
  | field loc names => exact W.bind W.getRT fun rt => W.liftP _ (evalFieldPath_pcr _ _ _)
  | chain loc base fields => exact W.bind h fun bv => W.liftP _ (.locateP _ (evalChainFields_pcr _ _))
  | underscore => exact W.errAt _ _
  | add loc isPlus l rgt =>
    cases l with
    | none => exact W.bind h.2 fun rv => W.liftP _ (.locateP _ (evalAdditive_pcr _ _ _ _ _ _))
    | some le =>
      exact W.bind (h.1 le rfl) fun lv => W.bind h.2 fun rv =>
        W.liftP _ (.locateP _ (evalAdditive_pcr _ _ _ _ _ _))
  | mul loc op l rgt =>
    exact W.bind h.1 fun lv => W.bind h.2.1 fun rv => W.liftP _ (.locateP _
      (evalMultiplicative_pcr _ _ _ _ _ h.2.2))
  | cmp loc isNeq l rgt =>
    exact W.bind h.1 fun lv => W.bind h.2 fun rv =>
      W.bind (W.liftP _ (checkEquality_pcr lv rv)) fun eq => W.pure _
  | numcmp loc op l rgt =>
    exact W.bind h.1 fun lv => W.bind h.2 fun rv =>
      W.liftP _ (.locateP _ (evalNumericComparative_pcr _ _ _ _))
  | logic loc isAnd l rgt =>
    refine W.bind h.1 fun lv => W.bind (isTrue lv) fun lt => W.ite ?_ ?_
    · exact W.ite (W.pure _) (W.bind h.2 fun rv => W.bind (isTrue rv) fun t => W.pure _)
    · exact W.ite (W.pure _) (W.bind h.2 fun rv => W.bind (isTrue rv) fun t => W.pure _)
  | not loc x => exact W.bind h fun v => W.bind (isTrue v) fun t => W.pure _
  | ternary loc c l rgt => exact W.bind h.1 fun cv => W.bind (isTrue cv) fun t => W.ite h.2.1 h.2.2
  | call loc base args ann hasSlot =>
    refine W.bind h.1 fun fv => ?_
    split
    · exact W.unsupported _
    · split
      · exact W.errAt _ _
      · next hk => exact h.2 fv (by simpa using hk)
  | index loc base idx =>
    exact W.bind h.1 fun bv => W.bind h.2 fun iv => W.liftP _ (.locateP _ (resolveIndex_pcr _ _ _))
  | slice loc base i j =>
    let numOf : Expr → M Int := fun x => do
      let v ← r.evalExpr env x
      match v with
      | .int n => pure n
      | .uint n => pure (Val.wrapI n)
      | .float f => liftOpt "int64(float)" (floatToInt f)
      | .opaque _ | .hidden _ => unsupported "slice index"
      | _ => errAt x.loc "non numeric value in index expression"
    have hnum : ∀ x, H (r.evalExpr env x) → H (numOf x) := fun x hx => W.bind hx fun v => by split <;> leaf W
    have lo : H (match i with
        | some x => numOf x
        | none => pure 0) := by
      cases i <;> first | exact W.pure _ | exact hnum _ (h.2.1 _ rfl)
    refine W.bind h.1 fun bv => ?_
    -- the kind test comes first: past it `bv` is a slice, a string or bytes, and the two
    -- `unreachable` sites are not reached; on the other kinds it fails, and what follows a failure is not run
    cases bv with
    | «opaque» | hidden | errv | intsRanger => exact W.unsupported _
    | slice | str | bytes =>
      refine W.bind (W.pure _) fun _ => W.bind lo fun lo => W.bind ?_ fun hi =>
        W.bind (W.pure _) fun n => W.ite (W.errAt _ _) (W.pure _)
      cases j <;> first | exact hnum _ (h.2.2 _ rfl) | exact W.bind (W.pure _) fun n => W.pure _
    | _ => exact W.errAt _ _

end

/-! ### the walk proper
    From here on the functions have crash sites of their own.  `Tot` excludes them by well-formed
    syntax and has its own proofs; a `WalkAll` tolerates them (`sites`), and knows the recursive calls
    on all syntax (`RecOk`). -/

/-- the crash sites that Lemmas/EvalHelpers.lean does not settle for every `Ok`: those `Tot` excludes (by
    well-formed syntax or by a test the evaluator makes: groups (b), (c) of the table in Lemmas/EvalTotal.lean)
    and the one callee panic -/
def siteMsgs : List String :=
  ["unreachable: too many arguments", "nil pointer dereference (no piped value)",
   "unreachable: call of non-func", "interface conversion in executeSet",
   "interface conversion: not *IdentifierNode", "index out of range [i] in assignment",
   "index out of range in lookup assignment", "index out of range [0] with length 0",
   "index out of range", "nil expression in range",
   "nil pointer dereference (yield without parameter list)",
   "unreachable operator", "strings: negative Repeat count", "unreachable cat arg",
   "unreachable sum arg", "unreachable Cat arg"]

structure RecOk (H : ∀ {α : Type}, M α → Prop) (r : Rec) : Prop where
  evalExpr : ∀ env e, H (r.evalExpr env e)
  execList : ∀ env l, H (r.execList env l)
  isSetE : ∀ env e, H (r.isSetE env e)

/-- a `Walk` that also tolerates the crash sites and holds of `setBlocks` whatever the blocks
    (`Good`, `Scoped`; not `Tot`, which needs the blocks well-formed) -/
structure WalkAll (Ok : String → Prop) (H : ∀ {α : Type}, M α → Prop) : Prop extends Walk Ok H where
  setBlocks (b : List (Bytes × BlockN)) : H (setBlocks b)
  sites : ∀ s ∈ siteMsgs, Ok s

theorem WalkAll.site {Ok : String → Prop} {H : ∀ {α : Type}, M α → Prop} (W : WalkAll Ok H) {α}
    (s : String) (h : s ∈ siteMsgs) : H (crash s : M α) :=
  W.crash s (W.sites s h)

variable {Ok : String → Prop} {H : ∀ {α : Type}, M α → Prop} (W : WalkAll Ok H)
  {r : Rec} (hr : RecOk H r) (env : Env)
include W hr

theorem walk_execBuiltin (isExec : Bool) (a : Args) : H (execBuiltin r env isExec a) := by
  have hg := Args.get_ok W.toWalk (a := a) fun e _ => hr.evalExpr env e
  unfold execBuiltin
  refine W.ite (W.errPlain _) (W.bind (hg 0) fun nameV => ?_)
  split
  · dsimp only
    split
    · exact W.ite (W.errPlain _) (W.pure _)
    · exact W.errPlain _
    · split
      · exact W.unsupported _
      · refine W.bind (W.withNewScopeD ?_) fun v => W.pure _
        refine W.ite (W.discard ?_) ?_ <;> exact W.bind (W.setBlocks _) fun _ =>
          W.ite (W.withCtxD (hg 1) (hr.execList env _)) (hr.execList env _)
  · exact W.unsupported _

theorem walk_yieldBlockApi (name : Bytes) (ctx : Val) : H (yieldBlockApi r env name ctx) := by
  unfold yieldBlockApi
  refine W.bind (W.getBlock name) fun o => ?_
  split
  · exact W.errPlain _
  · exact W.ite (W.bind (W.withCtxND _ (hr.execList env _)) fun _ => W.pure _)
      (W.bind (hr.execList env _) fun _ => W.pure _)

theorem walk_evalArgsLoop (sig : Sig) (a : Args) : ∀ es slot acc, H (evalArgsLoop r env sig a es slot acc)
  | [], _, _ => W.pure _
  | e :: rest, slot, acc => by
    unfold evalArgsLoop
    split
    · exact W.site _ (by simp [siteMsgs])
    · refine W.bind (W.ite ?_ (hr.evalExpr env e)) fun v => W.bind (W.liftP _ (convArg_pcr _ _ _)) fun c => ?_
      · split
        · exact W.pure _
        · exact W.site _ (by simp [siteMsgs])
      · split
        · exact walk_evalArgsLoop sig a rest _ _
        · exact W.pure _

theorem walk_evaluateArgs (sig : Sig) (a : Args) : H (evaluateArgs r env sig a) := by
  have hl := walk_evalArgsLoop W hr env sig a
  unfold evaluateArgs
  refine W.ite (W.pure _) (W.ite (W.pure _) ?_)
  split
  · split
    · exact W.site _ (by simp [siteMsgs])
    · refine W.bind (W.liftP _ (convArg_pcr _ _ _)) fun c => ?_
      split
      · exact hl _ _ _
      · exact W.pure _
  · exact hl _ _ _

theorem walk_callValue (fn : Val) (a : Args) : H (callValue r env fn a) := by
  have hargs := walk_evaluateArgs W hr env
  have site : ∀ {s}, s ∈ siteMsgs → ∀ {P : Prop}, P ∨ Ok s := fun h _ => .inr (W.sites _ h)
  unfold callValue
  split
  · exact W.pure _
  · exact W.bind (applyJetFunc_ok W.toWalk (fun e _ => hr.evalExpr env e) (fun e _ => hr.isSetE env e)
      (walk_yieldBlockApi W hr env) (fun b => walk_execBuiltin W hr env b _) _) fun v => W.pure _
  · split
    · exact W.unsupported _
    · refine W.bind (hargs _ a) fun res => ?_
      split
      · exact W.pure _
      · next args =>
        refine W.bind (W.liftP _ (applyGoFunc_pcr _ args (W.sites _ (by simp [siteMsgs]))
          (fun _ _ _ => site (by simp [siteMsgs])) (fun _ _ _ => site (by simp [siteMsgs])))) fun x => ?_
        exact W.bind (W.addLog _) fun _ => W.pure _
  · split
    · exact W.unsupported _
    · refine W.bind (hargs _ a) fun res => ?_
      split
      · exact W.pure _
      · exact W.bind (W.liftP _ (applyMethod_pcr _ _ _ fun _ _ _ => site (by simp [siteMsgs]))) fun v => W.pure _
  · exact W.unsupported _
  · exact W.site _ (by simp [siteMsgs])

theorem walk_callAt (loc : Loc) (fn : Val) (a : Args) : H (callAt r env loc fn a) := by
  unfold callAt
  refine W.bind (walk_callValue W hr env fn a) fun res => ?_
  split
  · exact W.pure _
  · exact W.errAt _ _

theorem walk_evalExprF (e : Expr) : H (evalExprF r env e) :=
  have ev := hr.evalExpr env
  evalExprF_ok W.toWalk e <| match e with
    | .chain .. | .not .. => ev _
    | .add .. => ⟨fun y _ => ev y, ev _⟩
    | .mul .. => ⟨ev _, ev _, .inr (W.sites _ (by simp [siteMsgs]))⟩
    | .cmp .. | .numcmp .. | .logic .. | .index .. => ⟨ev _, ev _⟩
    | .ternary .. => ⟨ev _, ev _, ev _⟩
    | .call .. => ⟨ev _, fun fv _ => walk_callAt W hr env _ fv _⟩
    | .slice .. => ⟨ev _, fun y _ => ev y, fun y _ => ev y⟩
    | .nilLit .. | .boolLit .. | .strLit .. | .numLit .. | .ident .. | .field .. | .underscore .. => trivial

theorem walk_isSetBody (e : Expr) : H (isSetBody r env e) :=
  isSetBody_ok W.toWalk e
    (fun _ b i _ => ⟨hr.isSetE env b, hr.isSetE env i, hr.evalExpr env b, hr.evalExpr env i⟩)
    fun _ b _ _ => hr.evalExpr env b

theorem walk_isSetF (e : Expr) : H (isSetF r env e) := W.recoverFalse (walk_isSetBody W hr env e)

theorem walk_executeSet (l : Expr) (v : Val) : H (executeSet r env l v) := by
  unfold executeSet
  split
  · exact W.bind (W.setValue _ _) fun ok => W.ite (W.pure _) (W.errAt _ _)
  · exact W.unsupported _
  · exact W.unsupported _
  · exact W.bind (hr.evalExpr env l) fun _ => W.site _ (by simp [siteMsgs])

theorem walk_assignOne (isLet : Bool) (l : Expr) (v : Val) : H (assignOne r env isLet l v) := by
  unfold assignOne
  refine W.ite (W.pure _) (W.ite ?_ (walk_executeSet W hr env l v))
  split
  · exact W.letVar _ _
  · exact W.site _ (by simp [siteMsgs])

theorem walk_assignLoop (isLet : Bool) : ∀ ls rs, H (assignLoop r env isLet ls rs)
  | [], _ => W.pure _
  | _ :: _, [] => W.site _ (by simp [siteMsgs])
  | l :: ls, rgt :: rs => by
    unfold assignLoop
    exact W.bind (hr.evalExpr env rgt) fun v => W.bind (walk_assignOne W hr env isLet l v) fun _ =>
      walk_assignLoop isLet ls rs

theorem walk_executeAssign (s : SetN) : H (executeAssign r env s) := by
  unfold executeAssign
  refine W.ite ?_ (walk_assignLoop W hr env _ _ _)
  split
  · exact W.bind (hr.evalExpr env _) fun v => W.bind (walk_assignOne W hr env _ _ _) fun _ =>
      walk_assignOne W hr env _ _ _
  · exact W.site _ (by simp [siteMsgs])

theorem walk_evalPipeline (p : Pipe) : H (evalPipeline r env p) := by
  have ev : ∀ {es : List Expr}, ∀ e ∈ es, H (r.evalExpr env e) := fun e _ => hr.evalExpr env e
  unfold evalPipeline
  split
  · exact W.site _ (by simp [siteMsgs])
  · exact W.bind (evalCommand_ok W.toWalk _ (hr.evalExpr env _) ev fun fn _ => walk_callAt W hr env _ fn _)
      fun first => pipelineLoop_ok W.toWalk _ first fun c _ v =>
        evalCommandPipe_ok W.toWalk c v (hr.evalExpr env _) ev fun fn _ => walk_callAt W hr env _ fn _

theorem walk_actionPipe (pipe : Option Pipe) : H (actionPipe r env pipe) :=
  actionPipe_ok W.toWalk pipe fun p _ => walk_evalPipeline W hr env p

theorem walk_executeYieldBlock (hy : ∀ block ctxE content, H (yieldBody r env block ctxE content))
    (loc : Loc) (block : BlockN) (bp yp : List Param) (ctxE : Option Expr) (content : Option (List Stmt)) :
    H (executeYieldBlock r env loc block bp yp ctxE content) :=
  executeYieldBlock_ok W.toWalk loc block bp yp ctxE content
    (bindYieldParams_ok W.toWalk loc yp fun _ _ e _ => hr.evalExpr env e)
    (bindBlockParams_ok W.toWalk bp fun _ _ e _ => hr.evalExpr env e) (hy _ _ _)

theorem walk_execBlock (hy : ∀ block ctxE content, H (yieldBody r env block ctxE content))
    (loc : Loc) (name : Bytes) (params : List Param) (ctxE : Option Expr) (body : List Stmt)
    (content : Option (List Stmt)) : H (execBlock r env loc name params ctxE body content) := by
  unfold execBlock
  refine W.bind (W.getBlock name) fun o => ?_
  cases o <;> exact walk_executeYieldBlock W hr env hy _ _ _ _ _ _

theorem walk_executeInclude (loc : Loc) (nameE : Expr) (ctxE : Option Expr) :
    H (executeInclude r env loc nameE ctxE) := by
  unfold executeInclude
  refine W.bind (hr.evalExpr env nameE) fun nameV => W.ite (W.errAt _ _) <| W.bind ?_ fun name =>
    W.bind (W.liftP _ (.locateP _ (getSibling_pcr _ _ _))) fun t => W.withNewScopeD <|
    W.bind (W.setBlocks _) fun _ => W.bind (W.liftOpt _ _) fun root => ?_
  · split <;> leaf W.toWalk
  · cases ctxE
    · exact hr.execList env _
    · exact W.withCtxD (hr.evalExpr env _) (hr.execList env _)

theorem walk_rangeBind (set : Option SetN) (slot : Option Nat) (v : Val) : H (rangeBind r env set slot v) := by
  unfold rangeBind
  split
  · split
    · refine W.ite ?_ ?_
      · split <;> first | exact W.letVar _ _ | exact W.unsupported _
      · split <;> first | exact W.pure _ | exact walk_executeSet W hr env _ _
    · exact W.site _ (by simp [siteMsgs])
  · exact W.pure _

theorem walk_execRange (loc : Loc) (set : Option SetN) (e : Option Expr) (body : List Stmt)
    (els : Option (List Stmt)) : H (execRange r env loc set e body els) := by
  have core : ∀ ex, H (rangeCore r env loc set ex body els) := fun ex => by
    unfold rangeCore
    exact W.bind (W.liftP _ (.locateP _ (getRanger_pcr _))) fun rg =>
      rangeLoop_ok W.toWalk set _ _ body els (walk_rangeBind W hr env set _) (walk_rangeBind W hr env set _)
        (hr.execList env _) (fun l _ => hr.execList env l) _ _ _
  unfold execRange
  split
  · split
    · exact W.bind (hr.evalExpr env _) fun ex => W.ite (W.withNewScopeND (core ex)) (core ex)
    · exact W.site _ (by simp [siteMsgs])
  · split
    · exact W.bind (hr.evalExpr env _) fun v => core v
    · exact W.site _ (by simp [siteMsgs])

theorem walk_tryCatch (hasCatch : Bool) (cv : Option Bytes) (cb : Option (List Stmt)) (errVal : Val) :
    H (tryCatch r env hasCatch cv cb errVal) :=
  tryCatch_ok W.toWalk hasCatch cv cb errVal fun l _ => hr.execList env l

theorem walk_execIf (set : Option SetN) (c : Expr) (t : List Stmt) (e : Option (List Stmt)) :
    H (execIf r env set c t e) :=
  execIf_ok W.toWalk set c t e (fun st _ => walk_executeAssign W hr env st)
    (ifBranches_ok W.toWalk c t e (hr.evalExpr env c) (hr.execList env t) fun l _ => hr.execList env l)

/-- A statement either opens the let-scope of its list - a `:=` action in a list that has not opened it yet:
    `newScope` first, and the flag is set - or hands the flag on; what it runs besides is `H`.  (`yieldBody`,
    `execYield` and `executeTry` are where the invariants differ: they are hypotheses.) -/
theorem execStmt_shape
    (hy : ∀ block ctxE content, H (yieldBody r env block ctxE content))
    (hyield : ∀ loc name params ctxE content isContent, H (execYield r env loc name params ctxE content isContent))
    (htry : ∀ body hasCatch cv cb, H (executeTry r env body hasCatch cv cb))
    (b : Bool) (s : Stmt) :
    ∃ (α : Type) (m : M α) (k : α → Val × Val), H m ∧
      execStmt r env b s =
        if (!b && stmtOpensLet s) = true then newScope >>= fun _ => m >>= fun a => pure ((k a).1, (k a).2, true)
        else m >>= fun a => pure ((k a).1, (k a).2, b) := by
  -- every statement but an action has `stmtOpensLet s = false` by reduction, so the `if` is its second branch
  have other : ∀ {x y : M (Val × Val × Bool)}, y = if (!b && false) = true then x else y := by simp
  cases s with
  | action loc set pipe =>
    have hp := walk_actionPipe W hr env pipe
    cases set with
    | none => exact ⟨_, _, fun _ => (.invalid, .invalid), hp, other⟩
    | some st =>
      refine ⟨_, _, fun _ => (.invalid, .invalid), W.bind (walk_executeAssign W hr env st) fun _ => hp, ?_⟩
      show (actionSet r env b (some st) >>= fun ins => actionPipe r env pipe >>= fun _ => pure (_, _, ins)) =
        if (!b && st.isLet) = true then _ else _
      unfold actionSet
      dsimp only
      cases st.isLet <;> cases b <;> simp only [bind_assoc, pure_bind, Bool.false_eq_true, Bool.not_false,
        Bool.not_true, Bool.and_false, Bool.and_true, Bool.and_self, ↓reduceIte]
  | text loc bts => exact ⟨_, _, fun _ => (.invalid, .invalid), W.writeLit bts, other⟩
  | ifS loc set cond thn els => exact ⟨_, _, fun ret => (ret, .invalid), walk_execIf W hr env set cond thn els, other⟩
  | rangeS loc set e body els =>
    exact ⟨_, _, fun ret => (ret, .invalid), walk_execRange W hr env loc set e body els, other⟩
  | block loc name params ctx body content =>
    exact ⟨_, _, fun _ => (.invalid, .invalid), walk_execBlock W hr env hy loc name params ctx body content, other⟩
  | yield loc name params ctx content isContent => exact ⟨_, _, fun _ => (.invalid, .invalid), hyield .., other⟩
  | «include» loc name ctx => exact ⟨_, _, fun ret => (ret, .invalid), walk_executeInclude W hr env loc name ctx, other⟩
  | tryS loc body hc cv cb => exact ⟨_, _, fun ret => (ret, .invalid), htry .., other⟩
  | ret loc e => exact ⟨_, _, fun v => (.invalid, v), hr.evalExpr env e, other⟩

end JetVerif.Eval
