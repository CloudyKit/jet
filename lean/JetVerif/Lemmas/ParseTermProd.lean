/-
  Termination of the productions (see Lemmas/ParseTerm.lean for the measure and the logic):
  for every ceiling `M` and every fuel `n ≥ rank + 40·M`, no production runs out of fuel.  The ranks are the constants
  in the fields of `ExprT` and `StmtT` (the highest is 22, `itemList`).  The loops that Model/Parse bounds by
  `items + pushed back + 2` of the state they start in (assignment sides, pipelines, block parameters, prologue, body)
  run under the ceiling `mu` of that state (`TermL.atState`).  The lemmas that are no field of `ExprT` or `StmtT`
  run at the fuel of their caller and ask for the rank of the highest production they call: 17 (`parseArguments`)
  for the assignment, command, pipeline and block-parameter helpers, 20 (`textOrAction`) for `bodyLoop` and
  `parseTemplate`.  The fuel of `Set.parse`'s model, `fuelFor toks = 40·(toks.length + 4)`, covers `20 + 40·M` at the
  ceiling `M = toks.length` of the state a parse starts in (Props/C02L.lean).
-/
import JetVerif.Lemmas.ParseTerm
import JetVerif.Lemmas.ParseLevel

namespace JetVerif.Parse

variable (cfg : Cfg)

macro "tb " t:term : tactic => `(tactic| (refine TermL.bind $t ?_; intro _))
macro "tret" : tactic => `(tactic| exact TermL.pure _ (fun _ h => by first | exact h.le | exact h.bk.a.le))

/-- the expression-level productions at fuel `n`; the constant in each bound is the production's rank -/
structure ExprT (n : Nat) : Prop where
  term : ∀ M, 1 + 40 * M ≤ n → TermL (A M 0) (term cfg n) (fun r s => A M 0 s ∧ (r.isSome → A M 1 s))
  chainLoop : ∀ M acc, 1 + 40 * M ≤ n → TermL (A M 0) (chainLoop n acc) (fun _ s => A M 0 s)
  operandReset : ∀ M node, 2 + 40 * M ≤ n → TermL (A M 0) (operandReset cfg n node) (fun _ s => A M 0 s)
  operand : ∀ M ctx, 3 + 40 * M ≤ n → TermL (A M 0) (operand cfg n ctx) (fun _ s => A M 1 s)
  argsLoop : ∀ M acc slot, 16 + 40 * M ≤ n → TermL (A M 0) (parseArgumentsLoop cfg n acc slot) (fun _ s => A M 0 s)
  args : ∀ M, 17 + 40 * M ≤ n → TermL (A M 0) (parseArguments cfg n) (fun _ s => A M 0 s)
  unary : ∀ M ctx, 4 + 40 * M ≤ n → TermL (A M 0) (unaryExpression cfg n ctx) (fun _ s => A M 1 s)
  mulLoop : ∀ M ctx l e, 5 + 40 * M ≤ n → TermL (A M 0) (multiplicativeLoop cfg n ctx l e) (fun _ s => A M 0 s)
  mul : ∀ M ctx, 6 + 40 * M ≤ n → TermL (A M 0) (multiplicativeExpression cfg n ctx) (fun _ s => A M 1 s)
  addLoop : ∀ M ctx l e, 7 + 40 * M ≤ n → TermL (A M 0) (additiveLoop cfg n ctx l e) (fun _ s => A M 0 s)
  add : ∀ M ctx, 8 + 40 * M ≤ n → TermL (A M 0) (additiveExpression cfg n ctx) (fun _ s => A M 1 s)
  relLoop : ∀ M ctx l e, 9 + 40 * M ≤ n → TermL (A M 0) (numericComparativeLoop cfg n ctx l e) (fun _ s => A M 0 s)
  rel : ∀ M ctx, 10 + 40 * M ≤ n → TermL (A M 0) (numericComparativeExpression cfg n ctx) (fun _ s => A M 1 s)
  eqLoop : ∀ M ctx l e, 11 + 40 * M ≤ n → TermL (A M 0) (comparativeLoop cfg n ctx l e) (fun _ s => A M 0 s)
  eq : ∀ M ctx, 12 + 40 * M ≤ n → TermL (A M 0) (comparativeExpression cfg n ctx) (fun _ s => A M 1 s)
  logLoop : ∀ M ctx l e, 13 + 40 * M ≤ n → TermL (A M 0) (logicalLoop cfg n ctx l e) (fun _ s => A M 0 s)
  log : ∀ M ctx, 14 + 40 * M ≤ n → TermL (A M 0) (logicalExpression cfg n ctx) (fun _ s => A M 1 s)
  pexpr : ∀ M ctx, 15 + 40 * M ≤ n → TermL (A M 0) (parseExpression cfg n ctx) (fun _ s => A M 1 s)
  expr : ∀ M ctx as, 16 + 40 * M ≤ n → TermL (A M 0) (expression cfg n ctx as) (fun _ s => A M 0 s)

/-- a binary level of rank `r + 2` (its loop: `r + 1`) over a level of rank `r`: the loop is entered only after an
    operand was consumed, so it may call itself -/
theorem Level.term {expr lower loop kind isOp} (L : Level expr lower loop kind isOp) [DecidablePred isOp] (r : Nat) {n : Nat}
    (hlow : ∀ M ctx, r + 40 * M ≤ n → TermL (A M 0) (lower n ctx) (fun _ s => A M 1 s))
    (hloop : ∀ M ctx l e, r + 1 + 40 * M ≤ n → TermL (A M 0) (loop n ctx l e) (fun _ s => A M 0 s)) :
    (∀ M ctx, r + 2 + 40 * M ≤ n + 1 → TermL (A M 0) (expr (n + 1) ctx) (fun _ s => A M 1 s)) ∧
    ∀ M ctx l e, r + 1 + 40 * M ≤ n + 1 → TermL (A M 0) (loop (n + 1) ctx l e) (fun _ s => A M 0 s) :=
  ⟨fun M ctx hn => L.expr_succ n ctx ▸ (TermL.call hn (hlow · ctx) (by omega)).bind fun _ =>
     TermL.call hn (hloop · ctx _ _) (by omega),
   fun M ctx l e hn => if h : isOp e.typ
     then L.loop_op n ctx l e h ▸ (TermL.call hn (hlow · ctx) (by omega)).bind fun _ => lineNumber_T.bind fun _ =>
       (TermL.call hn (hloop · ctx _ _) (by omega)).post fun _ _ h => h.le
     else fun s hs => by rw [L.loop_stop n ctx l e s h]; exact hs⟩

theorem exprT_step (n : Nat) (ih : ExprT cfg n) : ExprT cfg (n + 1) where
  term := by
    intro M hn
    rw [term]
    tb nextNonSpace_T
    refine TermL.ite (fun _ => errorf_T) (fun hne => ?_)
    refine TermL.consumed rfl ?_ hne
    have ret (e : PExpr) : TermL (A M 1) (pure (some e)) (fun r s => A M 0 s ∧ (r.isSome → A M 1 s)) :=
      TermL.pure _ fun _ h => ⟨h.le, fun _ => h⟩
    refine TermL.ite (fun _ => ?_) (fun _ => ?_)  -- identifier
    · tb lineNumber_T
      exact ret _
    refine TermL.ite (fun _ => ?_) (fun _ => ?_)  -- underscore
    · tb lineNumber_T
      exact ret _
    refine TermL.ite (fun _ => ?_) (fun _ => ?_)  -- nil
    · tb lineNumber_T
      exact ret _
    refine TermL.ite (fun _ => ?_) (fun _ => ?_)  -- field
    · tb lineNumber_T
      tb fieldNames_T
      exact ret _
    refine TermL.ite (fun _ => ?_) (fun _ => ?_)  -- bool
    · tb lineNumber_T
      exact ret _
    refine TermL.ite (fun _ => ?_) (fun _ => ?_)  -- char constant, complex, number
    · tb lineNumber_T
      split
      · exact ret _
      · exact errorf_T
      · exact TermL.unsupported _
      · exact TermL.unsupported _
    refine TermL.ite (fun _ => ?_) (fun _ => ?_)  -- ( expression )
    · tb (TermL.call hn (ih.expr · _ _))
      tb next_T
      refine TermL.ite (fun _ => unexpected_T) (fun _ => ?_)
      exact TermL.pure _ (fun _ h => ⟨h.bk.a.le, fun _ => h.bk.a⟩)
    refine TermL.ite (fun _ => ?_) (fun _ => ?_)  -- string, raw string
    · split
      · tb lineNumber_T
        exact ret _
      · exact errorf_T
      · exact TermL.unsupported _
      · exact TermL.unsupported _
    · tb (backup_T.pre fun _ h => h.bk)  -- anything else is pushed back
      exact TermL.pure _ (fun _ h => ⟨h, fun hc => by simp at hc⟩)
  chainLoop := by
    intro M acc hn
    rw [chainLoop]
    refine TermL.bind peekNonSpace_T ?_
    intro pk
    refine TermL.ite (fun hf => ?_) (fun _ => TermL.pure _ (fun _ h => h.1))
    tb (next_after_peek_T hf)
    tb chainAdd_T
    exact (TermL.call hn (ih.chainLoop · _)).post fun _ _ h => h.le
  operandReset := by
    intro M node0 hn
    rw [operandReset]
    tb pk_T
    refine TermL.bind (Q := fun _ s => A M 0 s) ?_ ?_
    · refine TermL.ite (fun hf => ?_) (fun _ => TermL.skip)
      tb lineNumber_T
      tb (TermL.call hn (ih.chainLoop · []))
      split
      · tb lineNumber_T
        tb fieldNames_T
        tret
      · exact errorf_T
      · exact errorf_T
      · exact errorf_T
      · exact errorf_T
      · tret
    intro node
    refine TermL.ite (fun _ => ?_) (fun _ => TermL.skip)
    tb nextNonSpace_T
    refine TermL.ite (fun hlp => ?_) (fun _ => ?_)
    · refine TermL.consumed hlp ?_
      tb lineNumber_T
      tb (TermL.call hn ih.args)
      tb expect_T
      exact (TermL.call hn (ih.operandReset · _)).post fun _ _ h => h.le
    refine TermL.ite (fun hlb => ?_) (fun _ => ?_)
    · refine TermL.consumed hlb ?_
      tb pns_T
      refine TermL.bind (Q := fun _ s => Bk M 1 s) ?_ ?_
      · refine TermL.ite (fun _ => ?_) (fun _ => ?_)
        · tb (TermL.call hn (ih.pexpr · _))
          exact TermL.pure _ (fun _ h => h.bk)
        · tb nextNonSpace_T
          exact TermL.pure _ (fun _ h => h.bk)
      intro p
      refine TermL.bind (Q := fun _ s => A M 1 s) ?_ ?_
      · refine TermL.ite (fun _ => ?_) (fun _ => ?_)
        · tb (pns_T.pre fun _ h => h.a)
          refine TermL.bind (Q := fun _ s => A M 1 s) ?_ ?_
          · refine TermL.ite (fun _ => ?_) (fun _ => TermL.skip)
            tb (TermL.call hn (ih.expr · _ _))
            tret
          intro _
          tret
        refine TermL.ite (fun _ => ?_) (fun _ => ?_)
        · tb backup_T
          tret
        · tb backup_T
          tret
      intro node2
      tb expect_T
      exact (TermL.call hn (ih.operandReset · _)).post fun _ _ h => h.le
    · tb (backup_T.pre fun _ h => h.bk)
      tret
  operand := by
    intro M ctx hn
    rw [operand]
    refine TermL.bind (ih.term M (by omega)) ?_
    intro r
    cases r with
    | none =>
      tb (next_T.pre fun _ h => h.1)
      exact unexpected_T
    | some node =>
      refine TermL.pre (P := A M 1) ?_ (fun _ h => h.2 rfl)
      exact TermL.call hn (ih.operandReset · _)
  argsLoop := by
    intro M acc slot hn
    rw [parseArgumentsLoop]
    tb pns_T
    refine TermL.ite (fun _ => TermL.skip) (fun _ => ?_)
    tb (TermL.call hn (ih.pexpr · _))
    refine TermL.bind (Q := fun _ s => A M 1 s) ?_ ?_
    · refine TermL.ite (fun _ => ?_) (fun _ => TermL.skip)
      refine TermL.ite (fun _ => errorf_T) (fun _ => TermL.skip)
    intro slot'
    refine TermL.ite (fun _ => ?_) (fun _ => ?_)
    · exact (TermL.call hn (ih.argsLoop · _ _)).post fun _ _ h => h.le
    · tb (backup_T.pre fun _ h => h.bk)
      tret
  args := by
    intro M hn
    rw [parseArguments]
    exact TermL.call hn (ih.argsLoop · _ _)
  unary := by
    intro M ctx hn
    rw [unaryExpression]
    tb nextNonSpace_T
    refine TermL.ite (fun hnot => ?_) (fun _ => ?_)
    · refine TermL.consumed hnot ?_
      tb (TermL.call hn (ih.eq · ctx))
      tb lineNumber_T
      tret
    refine TermL.ite (fun hsign => ?_) (fun _ => ?_)
    · refine TermL.consumed rfl ?_ (by rcases hsign with h' | h' <;> rw [h'] <;> decide)
      tb lineNumber_T
      tb (TermL.call hn (ih.operand · _))
      tb nextNonSpace_T
      tret
    · tb (backup_T.pre fun _ h => h.bk)
      tb (TermL.call hn (ih.operand · ctx))
      tb nextNonSpace_T
      tret
  mulLoop := ((mulLevel cfg).term 4 ih.unary ih.mulLoop).2
  mul := ((mulLevel cfg).term 4 ih.unary ih.mulLoop).1
  addLoop := ((addLevel cfg).term 6 ih.mul ih.addLoop).2
  add := ((addLevel cfg).term 6 ih.mul ih.addLoop).1
  relLoop := ((relLevel cfg).term 8 ih.add ih.relLoop).2
  rel := ((relLevel cfg).term 8 ih.add ih.relLoop).1
  eqLoop := ((eqLevel cfg).term 10 ih.rel ih.eqLoop).2
  eq := ((eqLevel cfg).term 10 ih.rel ih.eqLoop).1
  logLoop := ((logLevel cfg).term 12 ih.eq ih.logLoop).2
  log := ((logLevel cfg).term 12 ih.eq ih.logLoop).1
  pexpr := by
    intro M ctx hn
    rw [parseExpression]
    tb (TermL.call hn (ih.log · ctx))
    refine TermL.ite (fun _ => ?_) (fun _ => TermL.skip)
    tb (TermL.call hn (ih.pexpr · ctx))
    refine TermL.ite (fun _ => unexpected_T) (fun _ => ?_)
    tb (TermL.call hn (ih.pexpr · ctx))
    tb lineNumber_T
    tret
  expr := by
    intro M ctx as hn
    rw [expression]
    tb (TermL.call hn (ih.pexpr · ctx))
    tb (backup_T.pre fun _ h => h.bk)
    tret

theorem exprT_all : ∀ n, ExprT cfg n
  | 0 => by constructor <;> intros <;> omega
  | n + 1 => exprT_step cfg n (exprT_all n)

/-! ### assignments, commands, pipelines, block parameters -/

theorem bufW_le (s : PSt) : bufW s ≤ s.peekCount := by
  unfold bufW
  have := wt_le s.t0; have := wt_le s.t1; have := wt_le s.t2
  generalize s.peekCount = k
  match k with
  | 0 => simp
  | 1 => simp; omega
  | 2 => simp; omega
  | k + 3 => simp; omega

theorem mu_le (s : PSt) : mu s ≤ s.toks.length + s.peekCount := by
  have := bufW_le s; unfold mu; omega

/-- a loop whose bound was computed from the state `a`: run it under the ceiling `mu a` -/
theorem TermL.atState {α} {M : Nat} {a : PSt} {m : PM α} {c : Nat}
    (h : mu a ≤ M → TermL (A (mu a) 0) m (fun _ s => A (mu a) c s)) :
    TermL (fun s => a = s ∧ A M 0 s) m (fun _ s => A M c s) := by
  intro s hs
  obtain ⟨rfl, hA⟩ := hs
  have hle : mu a ≤ M := by unfold A at hA; omega
  exact (h hle).post (fun _ _ h => by unfold A at h ⊢; omega) a (by unfold A; omega)

variable (fuel : Nat)

/- The loops below run on a bound `k` of their own, under a ceiling `M < k`. -/

theorem assignLeftLoop_T (ctx : String) : ∀ (k : Nat) (left : List PExpr) (op : PExpr) (ret : Item) (M : Nat),
    M < k ∧ 17 + 40 * M ≤ fuel → TermL (A M 0) (assignLeftLoop cfg fuel ctx k left op ret) (fun _ s => A M 0 s)
  | 0, _, _, _, _, h => by omega
  | k + 1, left, op, ret, M, h => by
    rw [assignLeftLoop]
    refine TermL.ite (fun _ => errorf_T) (fun _ => ?_)
    refine TermL.ite (fun _ => ?_) (fun _ => ?_)
    · tb (TermL.spent ((exprT_all cfg fuel).pexpr · ctx) (by omega))
      exact (TermL.spent (assignLeftLoop_T ctx k _ _ _) (by omega)).post fun _ _ h => h.le
    refine TermL.ite (fun _ => TermL.skip) (fun _ => unexpected_T)

theorem assignRightLoop_T : ∀ (k : Nat) (right : List PExpr) (M : Nat), M < k ∧ 17 + 40 * M ≤ fuel →
    TermL (A M 0) (assignRightLoop cfg fuel k right) (fun _ s => A M 0 s)
  | 0, _, _, h => by omega
  | k + 1, right, M, h => by
    rw [assignRightLoop]
    tb (TermL.spent ((exprT_all cfg fuel).pexpr · _) (by omega))
    refine TermL.ite (fun _ => ?_) (fun _ => ?_)
    · tb (backup_T.pre fun _ h => h.bk)
      tret
    · exact (TermL.spent (assignRightLoop_T k _) (by omega)).post fun _ _ h => h.le

theorem assignmentOrExpression_T (ctx : String) (M : Nat) (hf : 17 + 40 * M ≤ fuel) :
    TermL (A M 0) (assignmentOrExpression cfg fuel ctx) (fun _ s => A M 0 s) := by
  unfold assignmentOrExpression
  tb pns_T
  tb lineNumber_T
  tb (TermL.spent ((exprT_all cfg fuel).pexpr · ctx) (by omega))
  refine TermL.ite (fun _ => ?_) (fun _ => ?_)
  · refine TermL.bind ((TermL.get (P := A M 0)).pre fun _ h => h.le) ?_
    intro a
    refine TermL.bind (Q := fun _ s => A M 0 s) (TermL.atState fun hle =>
      assignLeftLoop_T cfg fuel ctx _ _ _ _ (mu a) (by have := mu_le a; omega)) ?_
    intro r
    refine TermL.ite (fun _ => errorf_T) (fun _ => ?_)
    refine TermL.bind TermL.get ?_
    intro a2
    refine TermL.bind (Q := fun _ s => A M 0 s) (TermL.atState fun hle =>
      assignRightLoop_T cfg fuel _ _ (mu a2) (by have := mu_le a2; omega)) ?_
    intro right
    refine TermL.ite (fun _ => ?_) (fun _ => ?_)
    · refine TermL.ite (fun _ => errorf_T) (fun _ => TermL.skip)
    refine TermL.ite (fun _ => ?_) (fun _ => TermL.skip)
    split
    · refine TermL.ite (fun _ => TermL.skip) (fun _ => errorf_T)
    · exact errorf_T
  · tb (backup_T.pre fun _ h => h.bk)
    tret

theorem command_T (base : Option PExpr) (M : Nat) (hf : 17 + 40 * M ≤ fuel) :
    TermL (A M 0) (command cfg fuel base) (fun _ s => A M 0 s) := by
  unfold command
  tb pns_T
  tb lineNumber_T
  refine TermL.bind (Q := fun _ s => A M 0 s) ?_ ?_
  · cases base with
    | some b => exact TermL.skip
    | none => exact (exprT_all cfg fuel).expr M _ _ (by omega)
  intro b
  split
  · tret
  · tb nextNonSpace_T
    refine TermL.ite (fun _ => ?_) (fun _ => ?_)
    · tb (((exprT_all cfg fuel).args M (by omega)).pre fun _ h => h.bk.a)
      tret
    · tb (backup_T.pre fun _ h => h.bk)
      tret

theorem pipelineLoop_T : ∀ (k : Nat) (cmds : List PCmd) (M : Nat), M < k ∧ 17 + 40 * M ≤ fuel →
    TermL (A M 0) (pipelineLoop cfg fuel k cmds) (fun _ s => A M 0 s)
  | 0, _, _, h => by omega
  | k + 1, cmds, M, h => by
    rw [pipelineLoop]
    tb expectOneOf_T
    refine TermL.ite (fun _ => TermL.pure _ (fun _ h => h.le)) (fun _ => ?_)
    tb nextNonSpace_T
    refine TermL.ite (fun _ => ?_) (fun _ => unexpected_T)
    tb (backup_T.pre fun _ h => h.bk)
    tb (TermL.spent (command_T cfg fuel none) (by omega))
    exact (TermL.spent (pipelineLoop_T k _) (by omega)).post fun _ _ h => h.le

theorem pipeline_T (base : PExpr) (M : Nat) (hf : 17 + 40 * M ≤ fuel) :
    TermL (A M 0) (pipeline cfg fuel base) (fun _ s => A M 0 s) := by
  unfold pipeline
  tb pns_T
  tb lineNumber_T
  tb (command_T cfg fuel (some base) M hf)
  refine TermL.bind TermL.get ?_
  intro a
  refine TermL.bind (Q := fun _ s => A M 0 s) (TermL.atState fun hle =>
    pipelineLoop_T cfg fuel _ _ (mu a) (by have := mu_le a; omega)) ?_
  intro cmds
  tret

/-- what one round of the parameter loop leaves: a `backup` is paid for, and a non-error last item
    was consumed -/
def AfterParam (M : Nat) (p : List PParam × Item) (s : PSt) : Prop :=
  Bk M 0 s ∧ (p.2.typ ≠ Tok.error → A M 1 s)

theorem blockParamsLoop_T (isDecl : Bool) (ctx : String) : ∀ (k : Nat) (acc : List PParam) (M : Nat), M < k ∧ 17 + 40 * M ≤ fuel →
    TermL (A M 0) (blockParamsLoop cfg fuel isDecl ctx k acc) (fun _ s => A M 0 s)
  | 0, _, _, h => by omega
  | k + 1, acc, M, h => by
    rw [blockParamsLoop]
    refine TermL.bind nextNonSpace_T ?_
    intro nx
    refine TermL.bind (Q := AfterParam M) ?_ ?_
    · refine TermL.ite (fun hid => ?_) (fun _ => ?_)
      · refine TermL.consumed hid ?_
        tb nextNonSpace_T
        refine TermL.ite (fun hc => ?_) (fun _ => ?_)
        · exact TermL.pure _ (fun s h => ⟨h.bk.a.bk, fun _ => h.bk.a⟩)
        refine TermL.ite (fun _ => ?_) (fun _ => ?_)
        · tb ((TermL.spent ((exprT_all cfg fuel).pexpr · ctx) (by omega)).pre fun _ h => h.bk.a)
          exact TermL.pure _ (fun s h => ⟨h.le.bk, fun _ => h.le⟩)
        refine TermL.ite (fun _ => ?_) (fun _ => unexpected_T)
        tb ((backup2_T nx).pre fun s h => h.bk)
        tb ((exprT_all cfg fuel).pexpr M ctx (by omega))
        exact TermL.pure _ (fun s h => ⟨h.bk, fun _ => h⟩)
      refine TermL.ite (fun _ => ?_) (fun _ => ?_)
      · refine TermL.ite (fun hc => ?_) (fun _ => ?_)
        · exact TermL.pure _ (fun s h => ⟨h.bk, h.a1⟩)
        · tb (backup_T.pre fun _ h => h.bk)
          tb ((exprT_all cfg fuel).pexpr M ctx (by omega))
          exact TermL.pure _ (fun s h => ⟨h.bk, fun _ => h⟩)
      · exact TermL.pure _ (fun s h => ⟨h.bk, h.a1⟩)
    intro p
    refine TermL.ite (fun _ => ?_) (fun hc => ?_)
    · tb (backup_T.pre fun _ h => h.1)
      tret
    · have hcomma : p.2.typ = Tok.comma := by simpa using hc
      refine TermL.pre (P := A M 1) ?_ (fun _ h => h.2 (by rw [hcomma]; decide))
      exact (TermL.spent (blockParamsLoop_T isDecl ctx k _) (by omega)).post fun _ _ h => h.le

theorem blockParametersList_T (isDecl : Bool) (ctx : String) (M : Nat) (hf : 17 + 40 * M ≤ fuel) :
    TermL (A M 0) (blockParametersList cfg fuel isDecl ctx) (fun _ s => A M 0 s) := by
  unfold blockParametersList
  tb expect_T
  refine TermL.bind ((TermL.get (P := A M 0)).pre fun _ h => h.le) ?_
  intro a
  refine TermL.bind (Q := fun _ s => A M 0 s) (TermL.atState fun hle =>
    blockParamsLoop_T cfg fuel isDecl ctx _ _ (mu a) (by have := mu_le a; omega)) ?_
  intro ps
  tb expect_T
  tret

/-! ### statements -/

structure StmtT (n : Nat) : Prop where
  itemListLoop : ∀ M terms acc, 21 + 40 * M ≤ n → TermL (A M 0) (itemListLoop cfg n terms acc) (fun _ s => A M 1 s)
  itemList : ∀ M terms, 22 + 40 * M ≤ n → TermL (A M 0) (itemList cfg n terms) (fun _ s => A M 1 s)
  textOrAction : ∀ M, 20 + 40 * M ≤ n → TermL (A M 0) (textOrAction cfg n) (fun _ s => A M 1 s)
  action : ∀ M, 19 + 40 * M ≤ n → TermL (A M 0) (action cfg n) (fun _ s => A M 0 s)
  parseInclude : ∀ M, 18 + 40 * M ≤ n → TermL (A M 0) (parseInclude cfg n) (fun _ s => A M 0 s)
  parseBlock : ∀ M, 18 + 40 * M ≤ n → TermL (A M 0) (parseBlock cfg n) (fun _ s => A M 0 s)
  parseYield : ∀ M, 18 + 40 * M ≤ n → TermL (A M 0) (parseYield cfg n) (fun _ s => A M 0 s)
  parseControl : ∀ M b ctx, 18 + 40 * M ≤ n → TermL (A M 0) (parseControl cfg n b ctx) (fun _ s => A M 0 s)
  parseTry : ∀ M, 18 + 40 * M ≤ n → TermL (A M 0) (parseTry cfg n) (fun _ s => A M 0 s)
  parseCatch : ∀ M, 18 + 40 * M ≤ n → TermL (A M 0) (parseCatch cfg n) (fun _ s => A M 0 s)

/-- an optional context expression in front of the closing delimiter -/
theorem optExpr_T {n : Nat} (c : Prop) [Decidable c] (ctx as : String) (M : Nat) (hn : 16 + 40 * M ≤ n) :
    TermL (A M 0) (if c then (do pure (some (← expression cfg n ctx as)) : PM (Option PExpr)) else pure none)
      (fun _ s => A M 0 s) := by
  refine TermL.ite (fun _ => ?_) (fun _ => TermL.skip)
  tb ((exprT_all cfg n).expr M ctx as hn)
  tret

theorem stmtT_step (n : Nat) (ih : StmtT cfg n) : StmtT cfg (n + 1) where
  itemListLoop := by
    intro M terms acc hn
    rw [itemListLoop]
    tb pns_T
    refine TermL.ite (fun _ => errorf_T) (fun _ => ?_)
    tb (TermL.call hn ih.textOrAction)
    refine TermL.ite (fun _ => TermL.skip) (fun _ => ?_)
    refine TermL.ite (fun _ => errorf_T) (fun _ => ?_)
    exact (TermL.call hn (ih.itemListLoop · _ _)).post fun _ _ h => h.le
  itemList := by
    intro M terms hn
    rw [itemList]
    tb pns_T
    tb lineNumber_T
    tb (TermL.call hn (ih.itemListLoop · _ _))
    tret
  textOrAction := by
    intro M hn
    rw [textOrAction]
    tb nextNonSpace_T
    refine TermL.ite (fun ht => ?_) (fun _ => ?_)
    · tb lineNumber_T
      exact TermL.pure _ (fun _ h => h.a1 (by rw [ht]; decide))
    refine TermL.ite (fun hl => ?_) (fun _ => unexpected_T)
    exact TermL.consumed hl (TermL.call hn ih.action)
  action := by
    intro M hn
    rw [action]
    refine TermL.bind nextNonSpace_T ?_
    intro tk
    have kw {m : PM PStmt} {ty : Tok} (hk : tk.typ = ty) (h : TermL (A M 1) m (fun _ s => A M 1 s))
        (hty : ty ≠ Tok.error := by decide) : TermL (AfterNext M 0 tk) m (fun _ s => A M 0 s) :=
      TermL.consumed hk (h.post fun _ _ h => h.le) hty
    refine TermL.ite (fun hk => kw hk (TermL.call hn ih.parseInclude)) (fun _ => ?_)
    refine TermL.ite (fun hk => kw hk (TermL.call hn ih.parseBlock)) (fun _ => ?_)
    refine TermL.ite (fun hk => kw hk ?_) (fun _ => ?_)
    · tb expectRD_T
      tret
    refine TermL.ite (fun hk => kw hk (TermL.call hn ih.parseYield)) (fun _ => ?_)
    refine TermL.ite (fun hk => kw hk ?_) (fun _ => ?_)
    · tb expectRD_T
      tret
    refine TermL.ite (fun hk => kw hk (TermL.call hn (ih.parseControl · _ _))) (fun _ => ?_)
    refine TermL.ite (fun hk => kw hk ?_) (fun _ => ?_)
    · tb pns_T
      refine TermL.ite (fun _ => ?_) (fun _ => ?_)
      · tb lineNumber_T
        tret
      · tb expectRD_T
        tb lineNumber_T
        tret
    refine TermL.ite (fun hk => kw hk (TermL.call hn (ih.parseControl · _ _))) (fun _ => ?_)
    refine TermL.ite (fun hk => kw hk (TermL.call hn ih.parseTry)) (fun _ => ?_)
    refine TermL.ite (fun hk => kw hk (TermL.call hn ih.parseCatch)) (fun _ => ?_)
    refine TermL.ite (fun hk => kw hk ?_) (fun _ => ?_)
    · tb (TermL.call hn ((exprT_all cfg n).expr · _ _))
      tb expectRD_T
      tb lineNumber_T
      tret
    -- an expression or assignment action
    tb (backup_T.pre fun _ h => h.bk)
    tb pk_T
    tb lineNumber_T
    refine TermL.bind (TermL.call hn (assignmentOrExpression_T cfg n "command")) ?_
    intro r
    cases r with
    | inr set =>
      tb expectOneOf_T
      refine TermL.ite (fun _ => ?_) (fun _ => TermL.pure _ (fun _ h => h.le))
      tb (TermL.call hn ((exprT_all cfg n).expr · _ _))
      tb (TermL.call hn (pipeline_T cfg n _))
      tret
    | inl e =>
      tb (TermL.call hn (pipeline_T cfg n _))
      tret
  parseInclude := by
    intro M hn
    rw [parseInclude]
    tb (TermL.call hn ((exprT_all cfg n).expr · _ _))
    tb pns_T
    tb (TermL.call hn (optExpr_T cfg _ _ _))
    tb expectRD_T
    tb lineNumber_T
    tret
  parseBlock := by
    intro M hn
    rw [parseBlock]
    tb lineNumber_T
    tb expect_T
    tb (TermL.call hn (blockParametersList_T cfg n true _))
    tb pns_T
    tb (TermL.call hn (optExpr_T cfg _ _ _))
    tb expectRD_T
    tb (TermL.call hn (ih.itemList · _))
    refine TermL.bind (Q := fun _ s => A M 1 s) ?_ ?_
    · refine TermL.ite (fun _ => ?_) (fun _ => TermL.pure _ (fun _ h => h.le))
      tb (TermL.call hn (ih.itemList · _))
      tret
    intro content
    tb (registerBlock_T _ _)
    tret
  parseYield := by
    intro M hn
    rw [parseYield]
    tb lineNumber_T
    tb nextNonSpace_T
    refine TermL.ite (fun _ => ?_) (fun _ => ?_)
    · tb (pns_T.pre fun _ h => h.bk.a)
      tb (TermL.call hn (optExpr_T cfg _ _ _))
      tb expectRD_T
      tret
    refine TermL.ite (fun _ => unexpected_T) (fun _ => ?_)
    tb ((TermL.call hn (blockParametersList_T cfg n false _)).pre fun _ h => h.bk.a)
    tb pns_T
    refine TermL.ite (fun _ => ?_) (fun _ => ?_)
    · tb expectRD_T
      tret
    refine TermL.bind (Q := fun _ s => A M 0 s) ?_ ?_
    · refine TermL.ite (fun _ => ?_) (fun _ => TermL.skip)
      tb (TermL.call hn ((exprT_all cfg n).expr · _ _))
      tb pns_T
      tret
    intro p
    refine TermL.ite (fun _ => ?_) (fun _ => ?_)
    · tb expectRD_T
      tret
    refine TermL.ite (fun _ => ?_) (fun _ => ?_)
    · tb nextNonSpace_T
      tb (expectRD_T.pre fun _ h => h.bk.a)
      tb (TermL.call hn (ih.itemList · _))
      tret
    · tb nextNonSpace_T
      exact unexpected_T
  parseControl := by
    intro M b ctx hn
    rw [parseControl]
    tb lineNumber_T
    refine TermL.bind (Q := fun _ s => A M 0 s) ?_ ?_
    · refine TermL.bind (TermL.call hn (assignmentOrExpression_T cfg n ctx)) ?_
      intro r
      cases r with
      | inr set =>
        refine TermL.ite (fun _ => ?_) (fun _ => TermL.skip)
        tb expect_T
        tb (TermL.call hn ((exprT_all cfg n).expr · _ _))
        tret
      | inl e => tret
    intro p
    tb expectRD_T
    tb (TermL.call hn (ih.itemList · _))
    refine TermL.bind (Q := fun _ s => A M 1 s) ?_ ?_
    · refine TermL.ite (fun _ => ?_) (fun _ => TermL.pure _ (fun _ h => h.le))
      tb peek_T
      refine TermL.ite (fun hc => ?_) (fun _ => ?_)
      · tb (next_after_peek_T hc.2)
        tb lineNumber_T
        tb (TermL.call hn (ih.parseControl · _ _))
        tret
      · tb ((TermL.call hn (ih.itemList · _)).pre fun _ h => h.1)
        tret
    intro els
    tret
  parseTry := by
    intro M hn
    rw [parseTry]
    tb lineNumber_T
    tb expectRD_T
    refine TermL.bind (TermL.call hn (ih.itemList · _)) ?_
    intro p
    obtain ⟨ll, list, nx⟩ := p
    cases nx <;> tret
  parseCatch := by
    intro M hn
    rw [parseCatch]
    tb lineNumber_T
    tb pns_T
    refine TermL.bind (Q := fun _ s => A M 0 s) ?_ ?_
    · refine TermL.ite (fun _ => ?_) (fun _ => TermL.skip)
      tb ((exprT_all cfg n).term M (by omega))
      split
      · tb (next_T.pre fun _ h => h.1)
        exact unexpected_T
      · exact TermL.pure _ (fun _ h => h.1)
      · exact errorf_T
    intro errVar
    tb expectRD_T
    tb (TermL.call hn (ih.itemList · _))
    tret

theorem stmtT_all : ∀ n, StmtT cfg n
  | 0 => by constructor <;> intros <;> omega
  | n + 1 => stmtT_step cfg n (stmtT_all n)

/-! ### the template -/

theorem prologueLoop_T : ∀ (k : Nat) (skipped : List PStmt) (M : Nat), M < k →
    TermL (A M 0) (prologueLoop cfg k skipped) (fun _ s => A M 0 s)
  | 0, _, _, hk => by omega
  | k + 1, skipped, M, hk => by
    have again {c : Nat} sk : TermL (A M (c + 1)) (prologueLoop cfg k sk) (fun _ s => A M 0 s) :=
      (TermL.spent (prologueLoop_T k sk) (by omega)).post fun _ _ h => h.le (Nat.zero_le _)
    rw [prologueLoop]
    tb pk_T
    refine TermL.ite (fun _ => TermL.skip) (fun _ => ?_)
    refine TermL.bind next_T ?_
    intro delim
    refine TermL.ite (fun ht => ?_) (fun _ => ?_)
    · refine TermL.consumed ht.1 ?_
      tb TermL.get
      refine TermL.ite (fun _ => ?_) (fun _ => ?_)
      · tb (lineNumber_T.pre fun _ h => h.2)
        exact again _
      · exact (again _).pre fun _ h => h.2
    refine TermL.ite (fun hl => ?_) (fun _ => ?_)
    · refine TermL.consumed hl ?_
      tb nextNonSpace_T
      refine TermL.ite (fun _ => ?_) (fun _ => ?_)
      · tb (expectString_T.pre fun _ h => h.bk.a)
        tb TermL.get
        have jp : ∀ r : Unit, TermL (A M 2) ((fun (_ : Unit) => do
            let _ ← expect Tok.rightDelim "extends|import" "closing delimiter"
            prologueLoop cfg k skipped) r) (fun _ s => A M 0 s) := by
          intro _
          tb expect_T
          exact again _
        dsimp only []
        refine TermL.ite (fun _ => ?_) (fun _ => ?_)
        · refine TermL.ite (fun _ => TermL.bind errorf_T jp) (fun _ => ?_)
          refine TermL.ite (fun _ => TermL.bind errorf_T jp) (fun _ => ?_)
          split
          · exact TermL.bind ((modify_T _ fun _ => rfl).pre fun _ h => h.2) jp
          · exact TermL.bind errorf_T jp
        · split
          · exact TermL.bind ((modify_T _ fun _ => rfl).pre fun _ h => h.2) jp
          · exact TermL.bind errorf_T jp
      · tb ((backup2_T delim).pre fun s h => h.bk)
        tret
    · tb (backup_T.pre fun _ h => h.bk)
      tret

theorem bodyLoop_T : ∀ (k : Nat) (acc : List PStmt) (M : Nat), M < k ∧ 20 + 40 * M ≤ fuel →
    TermL (A M 0) (bodyLoop cfg fuel k acc) (fun _ s => A M 0 s)
  | 0, _, _, h => by omega
  | k + 1, acc, M, h => by
    rw [bodyLoop]
    tb pk_T
    refine TermL.ite (fun _ => TermL.skip) (fun _ => ?_)
    tb ((stmtT_all cfg fuel).textOrAction M h.2)
    refine TermL.ite (fun _ => errorf_T) (fun _ => ?_)
    exact (TermL.spent (bodyLoop_T k _) (by omega)).post fun _ _ h => h.le

theorem parseTemplate_T (M : Nat) (hf : 20 + 40 * M ≤ fuel) :
    TermL (A M 0) (parseTemplate cfg fuel) (fun _ s => A M 0 s) := by
  unfold parseTemplate
  tb pk_T
  tb lineNumber_T
  refine TermL.bind TermL.get ?_
  intro a
  -- both loops run under the ceiling `mu a`, which is below the bound computed from `a`
  refine TermL.atState (fun hle => ?_)
  have hb : mu a < a.toks.length + a.peekCount + 2 := by have := mu_le a; omega
  tb (prologueLoop_T cfg _ _ (mu a) hb)
  tb TermL.get
  tb ((bodyLoop_T cfg fuel _ _ (mu a) ⟨hb, by omega⟩).pre fun _ h => h.2)
  tret

/-- the initial state of `Set.parse`: nothing pushed back, every item still to come -/
theorem initial_mu (name input : Bytes) (toks : List Item) :
    A toks.length 0 ({ input := input, name := name, toks := toks } : PSt) := by
  simp [A, mu, bufW]

end JetVerif.Parse
