/-
  The central invariant of the evaluator model, `Good`, proved here of the monad, the runtime's
  primitives and the scoping combinators (of every function and every fuel: Lemmas/EvalGood.lean):

  * `Ext rt rt'`   (on success AND on failure): the output destination is the same object as
    before; sinks only grow, and only the current destination's sink (and buffers allocated
    later) can have grown — every other pre-existing sink is untouched.
  * `Rest rt rt'`  (on success): scope chain, context `.` and block content are exactly as
    before.

  Corollaries (in Props/): C07 scope/context restoration, C09 exec writes nothing, C12 output is a
  prefix, C13 try is all-or-nothing and leaves no trace.  (C17, isset is total, needs no invariant:
  `recoverFalse_total`.)  They read the invariant along a known outcome (`Good.ok/err/crash/restores`).
  The equations of the model used here and there (binds, scope primitives, `appendTo`) are in
  Lemmas/EvalEqns.lean.
-/
import JetVerif.Lemmas.EvalEqns

namespace JetVerif.Eval

/-- the current destination refers to an allocated sink -/
def WF (rt : RT) : Prop := ∀ k, rt.writer.idx = some k → k ≤ rt.nbufs

structure Ext (a b : RT) : Prop where
  writer : b.writer = a.writer
  nbufs : a.nbufs ≤ b.nbufs
  cur : ∀ k, a.writer.idx = some k → ∃ cs, b.sink k = cs ++ a.sink k
  other : ∀ k, k ≤ a.nbufs → a.writer.idx ≠ some k → b.sink k = a.sink k

structure Rest (a b : RT) : Prop where
  scope : b.scope = a.scope
  ctx : b.ctx = a.ctx
  content : b.content = a.content

theorem Ext.refl (a : RT) : Ext a a :=
  ⟨rfl, Nat.le_refl _, fun _ _ => ⟨[], rfl⟩, fun _ _ _ => rfl⟩

theorem Rest.refl (a : RT) : Rest a a := ⟨rfl, rfl, rfl⟩

theorem Ext.trans {a b c : RT} (h1 : Ext a b) (h2 : Ext b c) : Ext a c := by
  refine ⟨h2.writer.trans h1.writer, Nat.le_trans h1.nbufs h2.nbufs, ?_, ?_⟩
  · intro k hk
    have hk' : b.writer.idx = some k := by rw [h1.writer]; exact hk
    obtain ⟨cs1, e1⟩ := h1.cur k hk
    obtain ⟨cs2, e2⟩ := h2.cur k hk'
    exact ⟨cs2 ++ cs1, by rw [e2, e1, List.append_assoc]⟩
  · intro k hk hne
    have hne' : b.writer.idx ≠ some k := by rw [h1.writer]; exact hne
    rw [h2.other k (Nat.le_trans hk h1.nbufs) hne', h1.other k hk hne]

theorem Rest.trans {a b c : RT} (h1 : Rest a b) (h2 : Rest b c) : Rest a c :=
  ⟨h2.scope.trans h1.scope, h2.ctx.trans h1.ctx, h2.content.trans h1.content⟩

theorem Ext.wf {a b : RT} (hw : WF a) (h : Ext a b) : WF b := by
  intro k hk
  rw [h.writer] at hk
  exact Nat.le_trans (hw k hk) h.nbufs

theorem Ext.congr_left {a a' b : RT} (h : Ext a b) (hw : a'.writer = a.writer) (hn : a'.nbufs = a.nbufs)
    (hs : a'.sink = a.sink) : Ext a' b := by
  refine ⟨by rw [hw]; exact h.writer, by rw [hn]; exact h.nbufs, ?_, ?_⟩
  · intro k hk; rw [hw] at hk; rw [hs]; exact h.cur k hk
  · intro k hk hne; rw [hn] at hk; rw [hw] at hne; rw [hs]; exact h.other k hk hne

theorem Ext.congr_right {a b b' : RT} (h : Ext a b) (hw : b'.writer = b.writer) (hn : b'.nbufs = b.nbufs)
    (hs : b'.sink = b.sink) : Ext a b' := by
  refine ⟨by rw [hw]; exact h.writer, by rw [hn]; exact h.nbufs, ?_, ?_⟩
  · intro k hk; rw [hs]; exact h.cur k hk
  · intro k hk hne; rw [hs]; exact h.other k hk hne

def Post {α} (rt : RT) : Res α → Prop
  | .ok _ rt' => Ext rt rt' ∧ Rest rt rt'
  | .err _ rt' => Ext rt rt'
  | .crash _ rt' => Ext rt rt'
  | .fuel => True
  | .unsupported _ => True

structure Good {α} (m : M α) : Prop where
  post : ∀ rt, WF rt → Post rt (m rt)

theorem good_reads {α} {m : M α} (h : ∀ rt, ∃ a, m rt = .ok a rt) : Good m := by
  refine ⟨fun rt _ => ?_⟩
  obtain ⟨a, e⟩ := h rt
  rw [e]
  exact ⟨Ext.refl rt, Rest.refl rt⟩

theorem good_pure {α} (a : α) : Good (pure a : M α) := good_reads fun _ => ⟨a, rfl⟩

/-- an outcome of something run from `b` is an outcome of what started at `a`, if `b` is `a` extended and restored -/
theorem Ext.then {α} {a b : RT} {r : Res α} (e : Ext a b) (hr : Rest a b) (h : Post b r) : Post a r :=
  Res.Sat.mono h (fun _ _ h2 => ⟨e.trans h2.1, hr.trans h2.2⟩) (fun _ h2 => e.trans h2) (fun _ _ h2 => e.trans h2)

theorem Good.bind {α β} {m : M α} {f : α → M β} (hm : Good m) (hf : ∀ a, Good (f a)) :
    Good (m >>= f) :=
  ⟨fun rt hwf => sat_bind.mpr <| Res.Sat.mono (hm.post rt hwf)
    (fun a rt1 h1 => h1.1.then h1.2 ((hf a).post rt1 (h1.1.wf hwf))) (fun _ h1 => h1) (fun _ _ h1 => h1)⟩

theorem Good.seq {α β} {m : M α} {k : M β} (hm : Good m) (hk : Good k) : Good (do let _ ← m; k) :=
  hm.bind (fun _ => hk)

theorem good_map {α β} {m : M α} (f : α → β) (hm : Good m) : Good (do let a ← m; pure (f a)) :=
  hm.bind (fun a => good_pure (f a))

theorem good_outOfFuel {α} : Good (outOfFuel : M α) := ⟨fun _ _ => trivial⟩

theorem good_liftP {α} (p : P α) : Good (liftP p) :=
  ⟨fun rt _ => sat_liftP (fun _ _ => ⟨Ext.refl rt, Rest.refl rt⟩) (Ext.refl rt) (fun _ _ => Ext.refl rt)⟩

theorem good_throwErr {α} (e : Err) : Good (throwErr e : M α) := good_liftP (throwErr e)

theorem good_of_frames_only {α} (m : M α)
    (h : ∀ rt, match m rt with
      | .ok _ rt' | .err _ rt' | .crash _ rt' =>
        rt'.scope = rt.scope ∧ rt'.ctx = rt.ctx ∧ rt'.content = rt.content ∧
        rt'.writer = rt.writer ∧ rt'.nbufs = rt.nbufs ∧ rt'.sink = rt.sink
      | _ => True) : Good m := by
  refine ⟨fun rt _ => ?_⟩
  have := h rt
  cases hm : m rt with
  | ok a rt' => rw [hm] at this; obtain ⟨h1, h2, h3, h4, h5, h6⟩ := this
                exact ⟨(Ext.refl rt).congr_right h4 h5 h6, ⟨h1, h2, h3⟩⟩
  | err e rt' => rw [hm] at this; obtain ⟨_, _, _, h4, h5, h6⟩ := this
                 exact (Ext.refl rt).congr_right h4 h5 h6
  | crash s rt' => rw [hm] at this; obtain ⟨_, _, _, h4, h5, h6⟩ := this
                   exact (Ext.refl rt).congr_right h4 h5 h6
  | fuel => trivial
  | unsupported w => trivial

theorem good_modify_log (f : List LogE → List LogE) : Good (modifyRT fun rt => { rt with log := f rt.log }) :=
  good_of_frames_only _ fun _ => ⟨rfl, rfl, rfl, rfl, rfl, rfl⟩

theorem post_same {α} (rt : RT) (a : α) : Post rt (Res.ok a rt) := ⟨Ext.refl rt, Rest.refl rt⟩
theorem post_crash_same {α} (rt : RT) (s : String) : Post rt (Res.crash s rt : Res α) := Ext.refl rt
theorem post_err_same {α} (rt : RT) (e : Err) : Post rt (Res.err e rt : Res α) := Ext.refl rt

theorem post_ok_setFrame {α} (rt : RT) (a : α) (id : Nat) (f : Frame) : Post rt (Res.ok a (setFrame rt id f)) :=
  ⟨(Ext.refl rt).congr_right rfl rfl rfl, ⟨rfl, rfl, rfl⟩⟩

theorem good_letVar (n : Bytes) (v : Val) : Good (letVar n v) := by
  refine ⟨fun rt _ => ?_⟩
  unfold letVar
  split
  · exact post_crash_same _ _
  · split
    · exact post_crash_same _ _
    · split
      · exact post_crash_same _ _
      · exact post_ok_setFrame _ _ _ _

theorem good_setBlocks (b : List (Bytes × BlockN)) : Good (setBlocks b) := by
  refine ⟨fun rt _ => ?_⟩
  unfold setBlocks
  split
  · exact post_crash_same _ _
  · split
    · exact post_crash_same _ _
    · exact post_ok_setFrame _ _ _ _

theorem good_setValue (n : Bytes) (v : Val) : Good (setValue n v) := by
  refine ⟨fun rt _ => ?_⟩
  rcases setValue_cases n v rt with ⟨_, e⟩ | ⟨id, w, f, vs, _, _, _, e⟩ <;> rw [e]
  · exact post_same _ _
  · exact post_ok_setFrame _ _ _ _

theorem good_letGlobal (n : Bytes) (v : Val) : Good (letGlobal n v) := by
  refine ⟨fun rt _ => ?_⟩
  unfold letGlobal
  split
  · exact post_crash_same _ _
  · split
    · exact post_crash_same _ _
    · split
      · exact post_crash_same _ _
      · exact post_ok_setFrame _ _ _ _

/-! ### output primitives: they extend the current destination's sink only -/

theorem ext_appendTo (rt : RT) (cs : List Chunk) : Ext rt (appendTo rt rt.writer cs) := by
  unfold appendTo
  cases hidx : rt.writer.idx with
  | none => exact Ext.refl rt
  | some k =>
    refine ⟨rfl, Nat.le_refl _, ?_, ?_⟩
    · intro k' hk'
      rw [hidx] at hk'
      cases hk'
      exact ⟨cs.reverse, by simp⟩
    · intro k' _ hne
      rw [hidx] at hne
      have : k' ≠ k := fun h => hne (by rw [h])
      simp [this]

theorem rest_appendTo (rt : RT) (w : Wr) (cs : List Chunk) : Rest rt (appendTo rt w cs) := by
  unfold appendTo
  cases w.idx <;> exact ⟨rfl, rfl, rfl⟩

theorem good_emits {m : M Unit} (h : Emits m) : Good m :=
  ⟨fun rt _ => Res.Sat.mono (h rt) (fun _ _ ⟨cs, e⟩ => e ▸ ⟨ext_appendTo rt cs, rest_appendTo rt _ cs⟩)
    (fun _ e => e ▸ Ext.refl rt) (fun _ _ h => h.elim)⟩

theorem SameButScope.wf {a b : RT} (h : SameButScope a b) (hw : WF a) : WF b := by
  obtain ⟨_, _, w, n, _⟩ := h
  intro k hk; rw [w] at hk; rw [n]; exact hw k hk

theorem Ext.of_left {a a' b : RT} (h : SameButScope a a') (e : Ext a' b) : Ext a b :=
  e.congr_left h.2.2.1.symm h.2.2.2.1.symm h.2.2.2.2.symm

theorem Ext.of_right {a b b' : RT} (h : SameButScope b b') (e : Ext a b) : Ext a b' :=
  e.congr_right h.2.2.1 h.2.2.2.1 h.2.2.2.2

theorem good_withNewScopeND {α} {body : M α} (hb : Good body) : Good (withNewScopeND body) := by
  refine ⟨fun rt hwf => sat_newScope_bind (fun rt1 hs hsame => ?_) fun _ => Ext.refl rt⟩
  refine sat_bind.mpr <| Res.Sat.mono (hb.post rt1 (hsame.wf hwf)) (fun a rt2 hb1 => ?_) (fun _ h => Ext.of_left hsame h)
    (fun _ _ h => Ext.of_left hsame h)
  refine sat_bind.mpr <| Res.Sat.mono (releaseScope_sat rt2) (fun _ rt3 h3 => ?_) (fun _ h => h.elim)
    (fun _ _ h => h ▸ Ext.of_left hsame hb1.1)
  refine ⟨Ext.of_left hsame (Ext.of_right h3.2 hb1.1), ⟨?_, ?_, ?_⟩⟩
  · rw [h3.1, hb1.2.scope, hs]
  · rw [h3.2.1, hb1.2.ctx, hsame.1]
  · rw [h3.2.2.1, hb1.2.content, hsame.2.1]

theorem good_withNewScopeD {α} {body : M α} (hb : Good body) : Good (withNewScopeD body) := by
  refine ⟨fun rt hwf => sat_newScope_bind (fun rt1 hs hsame => ?_) fun _ => Ext.refl rt⟩
  have pop : ∀ {rt2}, Ext rt1 rt2 → Ext rt (popScope rt2) := fun h =>
    Ext.of_left hsame (Ext.of_right (popScope_fields _).2.2 h)
  refine sat_deferred.mpr <| Res.Sat.mono (hb.post rt1 (hsame.wf hwf)) (fun a rt2 hb1 => ?_) (fun _ => pop) (fun _ _ => pop)
  obtain ⟨ps, _, psame⟩ := popScope_fields rt2
  refine ⟨pop hb1.1, ⟨?_, ?_, ?_⟩⟩
  · rw [ps, hb1.2.scope, hs]
  · rw [psame.1, hb1.2.ctx, hsame.1]
  · rw [psame.2.1, hb1.2.content, hsame.2.1]

theorem good_withCtxND {α} (v : Val) {body : M α} (hb : Good body) : Good (withCtxND v body) :=
  ⟨fun rt hwf => sat_withCtxND.mpr <| Res.Sat.mono (hb.post { rt with ctx := v } hwf)
    (fun _ _ h => ⟨(h.1.congr_left (a' := rt) rfl rfl rfl).congr_right rfl rfl rfl, ⟨h.2.scope, rfl, h.2.content⟩⟩)
    (fun _ h => h.congr_left (a' := rt) rfl rfl rfl) (fun _ _ h => h.congr_left (a' := rt) rfl rfl rfl)⟩

theorem good_withContentND {α} (c : Option Closure) {body : M α} (hb : Good body) : Good (withContentND c body) :=
  ⟨fun rt hwf => sat_withContentND.mpr <| Res.Sat.mono (hb.post { rt with content := c } hwf)
    (fun _ _ h => ⟨(h.1.congr_left (a' := rt) rfl rfl rfl).congr_right rfl rfl rfl, ⟨h.2.scope, h.2.ctx, rfl⟩⟩)
    (fun _ h => h.congr_left (a' := rt) rfl rfl rfl) (fun _ _ h => h.congr_left (a' := rt) rfl rfl rfl)⟩

theorem good_withScopeContentND {α} (sc : List Nat) (ct : Option Closure) {body : M α} (hb : Good body) :
    Good (withScopeContentND sc ct body) :=
  ⟨fun rt hwf => sat_withScopeContentND.mpr <| Res.Sat.mono (hb.post { rt with scope := sc, content := ct } hwf)
    (fun _ _ h => ⟨(h.1.congr_left (a' := rt) rfl rfl rfl).congr_right rfl rfl rfl, ⟨rfl, h.2.ctx, rfl⟩⟩)
    (fun _ h => h.congr_left (a' := rt) rfl rfl rfl) (fun _ _ h => h.congr_left (a' := rt) rfl rfl rfl)⟩

theorem good_withScopeContentD {α} (sc : List Nat) (ct : Option Closure) {body : M α} (hb : Good body) :
    Good (withScopeContentD sc ct body) :=
  have ext : ∀ {rt rt' : RT}, Ext { rt with scope := sc, content := ct } rt' →
      Ext rt { rt' with scope := rt.scope, content := rt.content } :=
    fun {rt _} h => (h.congr_left (a' := rt) rfl rfl rfl).congr_right rfl rfl rfl
  ⟨fun rt hwf => sat_withScopeContentD.mpr <| Res.Sat.mono (hb.post { rt with scope := sc, content := ct } hwf)
    (fun _ _ h => ⟨ext h.1, ⟨rfl, h.2.ctx, rfl⟩⟩) (fun _ => ext) (fun _ _ => ext)⟩

/-- `e` runs in the caller's context and is `Good`; the body runs in the new one and restores everything but
    the context, which the deferred function puts back -/
theorem good_withCtxD {α} {e : M Val} {body : M α} (he : Good e) (hb : Good body) : Good (withCtxD e body) := by
  refine ⟨fun rt hwf => ?_⟩
  have ext : ∀ {rt' : RT}, Ext rt rt' → Ext rt { rt' with ctx := rt.ctx } := fun h => h.congr_right rfl rfl rfl
  refine sat_deferred.mpr <| sat_bind.mpr <| Res.Sat.mono (he.post rt hwf) (fun nv rt1 he0 => ?_) (fun _ => ext)
    (fun _ _ => ext)
  have ext1 : ∀ {rt2 : RT}, Ext { rt1 with ctx := nv } rt2 → Ext rt { rt2 with ctx := rt.ctx } := fun h =>
    ext (he0.1.trans (h.congr_left (a' := rt1) rfl rfl rfl))
  exact Res.Sat.mono (hb.post { rt1 with ctx := nv } fun k hk => he0.1.wf hwf k hk)
    (fun _ _ h => ⟨ext1 h.1, ⟨h.2.scope.trans he0.2.scope, rfl, h.2.content.trans he0.2.content⟩⟩)
    (fun _ => ext1) (fun _ _ => ext1)

theorem wf_discard (rt : RT) : WF { rt with writer := Wr.discard } := by
  intro k hk
  simp [Wr.idx] at hk

/-- with the discard writer every pre-existing sink is "other" -/
theorem Ext.discard {rt rt2 : RT} (e : Ext { rt with writer := Wr.discard } rt2) (k : Nat) (hk : k ≤ rt.nbufs) :
    rt2.sink k = rt.sink k :=
  e.other k hk (by simp [Wr.idx])

/-- `w := st.Writer; defer restore; st.Writer = w'`: what the body writes goes to `w'` (or to
    buffers allocated later); every sink that existed before is untouched unless it is `w'`'s.
    Stated for the one use the evaluator makes of it, `w' = discard` (exec): nothing at all is
    written. -/
theorem good_withWriterD_discard {α} {body : M α} (hb : Good body) : Good (withWriterD .discard body) := by
  refine ⟨fun rt hwf => ?_⟩
  have key : ∀ {rt2}, Ext { rt with writer := Wr.discard } rt2 → Ext rt { rt2 with writer := rt.writer } := fun e =>
    ⟨rfl, e.nbufs, fun k hk => ⟨[], e.discard k (hwf k hk)⟩, fun k hk _ => e.discard k hk⟩
  exact sat_deferred.mpr <| Res.Sat.mono (hb.post { rt with writer := Wr.discard } (wf_discard rt))
    (fun _ _ h => ⟨key h.1, ⟨h.2.scope, h.2.ctx, h.2.content⟩⟩) (fun _ => key) (fun _ _ => key)

/-- isSet's catch-all recover: a failure becomes `false` and scope/context/content are reset -/
theorem good_recoverFalse {m : M Bool} (hm : Good m) : Good (recoverFalse m) :=
  ⟨fun rt hwf => sat_recoverFalse.mpr <| Res.Sat.mono (hm.post rt hwf) (fun _ _ h => h)
    (fun _ h => ⟨h.congr_right rfl rfl rfl, ⟨rfl, rfl, rfl⟩⟩) (fun _ _ h => ⟨h.congr_right rfl rfl rfl, ⟨rfl, rfl, rfl⟩⟩)⟩

theorem Good.ok {α} {m : M α} (hm : Good m) {rt rt' : RT} {a : α} (hwf : WF rt) (h : m rt = .ok a rt') :
    Ext rt rt' ∧ Rest rt rt' := by have := hm.post rt hwf; rwa [h] at this

theorem Good.err {α} {m : M α} (hm : Good m) {rt rt' : RT} {e : Err} (hwf : WF rt) (h : m rt = .err e rt') :
    Ext rt rt' := by have := hm.post rt hwf; rwa [h] at this

theorem Good.crash {α} {m : M α} (hm : Good m) {rt rt' : RT} {s : String} (hwf : WF rt)
    (h : m rt = .crash s rt') : Ext rt rt' := by have := hm.post rt hwf; rwa [h] at this

theorem Good.restores {α} {m : M α} (hm : Good m) {rt rt' : RT} {a : α} (hwf : WF rt) (h : m rt = .ok a rt') :
    rt'.scope = rt.scope ∧ rt'.ctx = rt.ctx ∧ rt'.content = rt.content ∧ rt'.writer = rt.writer :=
  let ⟨e, r⟩ := hm.ok hwf h; ⟨r.scope, r.ctx, r.content, e.writer⟩

end JetVerif.Eval
