/-
  `clean` and `join` of Model/Path.lean at the level of segments (C15, C19).  `IsCanon`: absolute, slash separated,
  no empty, `.` or `..` segment.  Two halves carry everything: the image of `clean` on an absolute path is canonical
  (`clean_abs_canon`: `clean_abs` renders what `cleanSegs` leaves of `splitSegs`, and every step of `cleanSegs`
  keeps good segments), and a canonical path is a fixed point (`clean_of_canon`: `splitSegs_render` splits a
  rendering back into its segments).  `dir` and `join` of absolute paths go through `clean`.
-/
import JetVerif.Model.Path

namespace JetVerif.Path

/-- a segment the canonical form may contain -/
def GoodSeg (s : Bytes) : Prop := s ≠ [] ∧ s ≠ dotSeg ∧ s ≠ dotdotSeg ∧ slash ∉ s

instance (s : Bytes) : Decidable (GoodSeg s) := by unfold GoodSeg; infer_instance

/-- canonical: absolute, slash separated, no empty, `.` or `..` segment -/
def IsCanon (p : Bytes) : Prop := ∃ segs, (∀ s ∈ segs, GoodSeg s) ∧ p = renderAbs segs

theorem splitSegs_ne_nil (p : Bytes) : splitSegs p ≠ [] := by
  induction p with
  | nil => simp [splitSegs]
  | cons c cs ih =>
    unfold splitSegs
    split
    · simp
    · split <;> simp

theorem splitSegs_noSlash (p : Bytes) : ∀ s ∈ splitSegs p, slash ∉ s := by
  fun_induction splitSegs p with
  | case1 => exact List.forall_mem_singleton.mpr List.not_mem_nil
  | case2 cs ih => exact List.forall_mem_cons.mpr ⟨List.not_mem_nil, ih⟩
  | case3 c cs hc h ih => simpa using Ne.symm hc
  | case4 c cs hc s ss h ih =>
    rw [h, List.forall_mem_cons] at ih
    exact List.forall_mem_cons.mpr ⟨List.not_mem_cons_of_ne_of_not_mem (Ne.symm hc) ih.1, ih.2⟩

theorem cleanStep_good (stack : List Bytes) (seg : Bytes)
    (hs : ∀ s ∈ stack, GoodSeg s) (hseg : slash ∉ seg) :
    ∀ s ∈ cleanStep true stack seg, GoodSeg s := by
  unfold cleanStep
  -- `by_cases`, not `split`: `split` on the byte-string conditions is slow to check
  by_cases h1 : seg = [] ∨ seg = dotSeg
  · rw [if_pos h1]; exact hs
  · rw [if_neg h1]
    by_cases h2 : seg = dotdotSeg
    · rw [if_pos h2]
      cases stack with
      | nil => exact hs
      | cons top rest =>
        dsimp only
        split
        · exact hs
        · exact fun s h => hs s (List.mem_cons_of_mem _ h)
    · rw [if_neg h2]
      intro s h
      rcases List.mem_cons.mp h with rfl | h
      · exact ⟨fun e => h1 (.inl e), fun e => h1 (.inr e), h2, hseg⟩
      · exact hs s h

theorem cleanSegs_good (segs : List Bytes) (hsegs : ∀ s ∈ segs, slash ∉ s) :
    ∀ s ∈ cleanSegs true segs, GoodSeg s := fun s h =>
  List.foldlRecOn (motive := fun stack => ∀ s ∈ stack, GoodSeg s) segs (cleanStep true)
    (fun _ h => absurd h List.not_mem_nil)
    (fun stack hs seg hseg => cleanStep_good stack seg hs (hsegs seg hseg)) s (List.mem_reverse.mp h)

theorem ne_nil_of_isAbs {p : Bytes} (h : isAbs p = true) : p ≠ [] := by
  intro h0; subst h0; simp [isAbs] at h

theorem clean_abs {p : Bytes} (h : isAbs p = true) : clean p = renderAbs (cleanSegs true (splitSegs p)) := by
  rw [clean, if_neg (ne_nil_of_isAbs h), if_pos h]

theorem clean_abs_canon (p : Bytes) (h : isAbs p = true) : IsCanon (clean p) :=
  ⟨_, cleanSegs_good _ (splitSegs_noSlash p), clean_abs h⟩

theorem isAbs_renderAbs (segs : List Bytes) : isAbs (renderAbs segs) = true := by
  cases segs with
  | nil => simp [renderAbs, isAbs]
  | cons s ss => simp [renderAbs, isAbs]

theorem IsCanon.isAbs {p : Bytes} (h : IsCanon p) : isAbs p = true := by
  obtain ⟨segs, _, rfl⟩ := h
  exact isAbs_renderAbs segs

/-! splitting a rendered canonical path gives back its segments -/

theorem splitSegs_append_slash (s rest : Bytes) (hs : slash ∉ s) :
    splitSegs (s ++ slash :: rest) = s :: splitSegs rest := by
  induction s with
  | nil => simp [splitSegs]
  | cons c cs ih =>
    rw [List.mem_cons, not_or] at hs
    simp only [List.cons_append, splitSegs, Ne.symm hs.1, if_false, ih hs.2]

theorem splitSegs_noSlash_self (s : Bytes) (hs : slash ∉ s) : splitSegs s = [s] := by
  induction s with
  | nil => simp [splitSegs]
  | cons c cs ih =>
    rw [List.mem_cons, not_or] at hs
    simp only [splitSegs, Ne.symm hs.1, if_false, ih hs.2]

theorem splitSegs_render (segs : List Bytes) (hs : ∀ x ∈ segs, slash ∉ x) : ∀ s, slash ∉ s →
    splitSegs (s ++ (segs.map (fun x => slash :: x)).flatten) = s :: segs := by
  induction segs with
  | nil => intro s h; simpa using splitSegs_noSlash_self s h
  | cons t ts ih =>
    intro s h
    rw [List.map_cons, List.flatten_cons, List.cons_append, splitSegs_append_slash s _ h,
      ih (fun x hx => hs x (by simp [hx])) t (hs t (by simp))]

theorem cleanStep_goodSeg (stack : List Bytes) (s : Bytes) (h : GoodSeg s) :
    cleanStep true stack s = s :: stack := by
  unfold cleanStep
  obtain ⟨h1, h2, h3, _⟩ := h
  simp [h1, h2, h3]

theorem foldl_cleanStep_goodSegs (segs stack : List Bytes) (h : ∀ s ∈ segs, GoodSeg s) :
    segs.foldl (cleanStep true) stack = segs.reverse ++ stack := by
  induction segs generalizing stack with
  | nil => simp
  | cons x xs ih =>
    simp only [List.foldl_cons]
    rw [cleanStep_goodSeg stack x (h x (by simp)), ih _ (fun s hs => h s (by simp [hs]))]
    simp

theorem clean_of_canon {p : Bytes} (h : IsCanon p) : clean p = p := by
  rw [clean_abs h.isAbs]
  obtain ⟨segs, hg, rfl⟩ := h
  cases segs with
  | nil => simp [renderAbs, splitSegs, cleanSegs, cleanStep]
  | cons s ss =>
    -- the leading slash splits off an empty segment, which `cleanStep` drops; the good ones are pushed
    have hsplit : splitSegs (renderAbs (s :: ss)) = [] :: s :: ss :=
      splitSegs_render (s :: ss) (fun x hx => (hg x hx).2.2.2) [] (by simp)
    have h0 : cleanStep true [] [] = [] := by simp [cleanStep]
    rw [hsplit, cleanSegs, List.foldl_cons, h0, foldl_cleanStep_goodSegs (s :: ss) [] hg]
    simp

theorem clean_idem_abs (p : Bytes) (h : isAbs p = true) : clean (clean p) = clean p :=
  clean_of_canon (clean_abs_canon p h)

theorem isAbs_splitLast (p : Bytes) (h : isAbs p = true) : isAbs (splitLast p).1 = true := by
  cases p with
  | nil => simp [isAbs] at h
  | cons c cs =>
    simp [isAbs] at h
    subst h
    simp [splitLast, isAbs]

theorem dir_abs_canon (p : Bytes) (h : isAbs p = true) : IsCanon (dir p) :=
  clean_abs_canon _ (isAbs_splitLast p h)

theorem isAbs_append (a b : Bytes) (h : isAbs a = true) : isAbs (a ++ b) = true := by
  cases a with
  | nil => simp [isAbs] at h
  | cons c cs => simpa [isAbs] using h

theorem join_abs_canon (d n : Bytes) (h : isAbs d = true) : IsCanon (join [d, n]) := by
  have hne := ne_nil_of_isAbs h
  unfold join
  have : ([d, n].all (· = [])) = false := by simp [hne]
  simp only [this, Bool.false_eq_true, if_false]
  apply clean_abs_canon
  have : joinRaw [] [d, n] = d ++ slash :: n := by
    simp [joinRaw, hne]
  rw [this]
  exact isAbs_append d _ h

theorem join_root_canon (n : Bytes) : IsCanon (join [[slash], n]) := join_abs_canon [slash] n rfl

end JetVerif.Path
