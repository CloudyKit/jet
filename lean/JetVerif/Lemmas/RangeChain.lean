/-
  Helper lemmas for Props/C05R.lean: how the evaluator model executes a `range` statement over a slice.

  What the model does (Model/Eval.lean):
  * `execStmt r env ins (.rangeS loc set e body els)` is `execRange r env loc set e body els`, the returned
    value handed on as the statement's `ret`.
  * zero-variable form (`set = none`, `e = some ex`): `ex` is evaluated by `r.evalExpr`, `rangeCore` asks
    `getRanger` for a ranger and runs `rangeLoop … 100000 rg true`.  No scope is opened.
  * declaring forms (`set = some st`, `st.isLet`): `st.right[0]` is evaluated FIRST (outside the loop scope),
    then ONE scope is opened around the whole loop (`withNewScopeND (rangeCore …)`) - not one per iteration -
    and released after the loop (not deferred: a failing body leaves it open).
  * every iteration runs the body by `r.execList env body` with THE SAME `r`: the body of a range executed
    by `execStmt (recAt K)` runs at `(recAt K).execList`, whatever the number of elements (no fuel per
    iteration).  The loop's own counter (`rangeLoop`'s `Nat`) starts at 100000; a slice ranger of `n`
    elements needs `n + 1` calls of `Range()`, so `n < 100000` is required, beyond it the model answers
    `unsupported "range too long"`.
  * `ret.IsValid()`: the loop stops as soon as a body returns a valid value (a `return` inside it), and
    that value is the value of the statement.

  `iterate` is the loop as a fold over the elements (`rangeLoop_iterate`), `step0` / `step1` / `step2` are
  the iterations of the three documented forms; the last part runs, over text bodies, `{{range x}}` from any runtime
  (`run_rangeStmt0`) and `{{range k, v := x}}` from the runtime `Template.Execute` sets up (`run_rangeStmt2_init`).
-/
import JetVerif.Lemmas.IfChain

namespace JetVerif.RangeChain
open JetVerif JetVerif.Eval JetVerif.IfChain

theorem bind_assoc {α β γ} (m : M α) (f : α → M β) (g : β → M γ) :
    (m >>= f) >>= g = m >>= fun a => f a >>= g := Eval.bind_assoc m f g

/-- `iterate step i xs`: run `step i x₀`, `step (i+1) x₁`, … one after the other, threading the runtime;
    stop as soon as one of them returns a valid value (that value is the result), or fails.  The result
    after the last element is the invalid value.  Mirrors `for !end && !ret.IsValid()`. -/
def iterate (step : Nat → Val → M Val) : Nat → List Val → M Val
  | _, [] => pure .invalid
  | i, x :: xs => do
    let ret ← step i x
    if ret.isValid then pure ret else iterate step (i + 1) xs

theorem iterate_nil (step : Nat → Val → M Val) (i : Nat) (rt : RT) : iterate step i [] rt = .ok .invalid rt := rfl

theorem iterate_cons (step : Nat → Val → M Val) (i : Nat) (x : Val) (xs : List Val) :
    iterate step i (x :: xs) = (step i x >>= fun ret => if ret.isValid then pure ret else iterate step (i + 1) xs) := rfl

theorem iterate_cons_ok (step : Nat → Val → M Val) (i : Nat) (x : Val) (xs : List Val) (rt rt1 : RT)
    (h : step i x rt = .ok .invalid rt1) : iterate step i (x :: xs) rt = iterate step (i + 1) xs rt1 := by
  rw [iterate_cons, bind_ok h]; rfl

theorem iterate_cons_crash (step : Nat → Val → M Val) (i : Nat) (x : Val) (xs : List Val) (rt rt1 : RT) (m : String)
    (h : step i x rt = .crash m rt1) : iterate step i (x :: xs) rt = .crash m rt1 := by
  rw [iterate_cons, bind_crash h]

/-- the value the slice ranger hands out for element `x`: Interface-kinded for `[]interface{}` -/
def elemVal (ifc : Bool) (x : Val) : Val := if ifc then .iface x else x

/-- what `.` is bound to for element `x` (zero- and one-variable forms): the ranger's value, unwrapped by
    `indirectEface` -/
def dotOf (ifc : Bool) (x : Val) : Val := Val.indirectEface (elemVal ifc x)

/-- one iteration of `rangeLoop` for index `i` and element `x`: bind the key variable, bind the value
    variable, run the body - with `.` = the element iff there is no value variable -/
def iterStep (r : Rec) (env : Env) (set : Option SetN) (ks vs : Option Nat) (body : List Stmt) (ifc : Bool)
    (i : Nat) (x : Val) : M Val := do
  rangeBind r env set ks (.int i)
  rangeBind r env set vs (elemVal ifc x)
  if vs.isNone then withCtxND (dotOf ifc x) (r.execList env body) else r.execList env body

theorem rangeLoop_cons (r : Rec) (env : Env) (set : Option SetN) (ks vs : Option Nat) (body : List Stmt)
    (els : Option (List Stmt)) (f : Nat) (x : Val) (xs : List Val) (i : Nat) (ifc first : Bool) :
    rangeLoop r env set ks vs body els (f + 1) (.sliceR (x :: xs) i ifc) first =
      (iterStep r env set ks vs body ifc i x >>= fun ret =>
        if ret.isValid then pure ret else rangeLoop r env set ks vs body els f (.sliceR xs (i + 1) ifc) false) := by
  -- `iterStep` is the first three steps of the loop body, bracketed
  simp only [iterStep, bind_assoc]
  rfl

/-- **the loop over a slice ranger is the fold** as soon as there is an element or one was seen before (the
    else list plays no role) -/
theorem rangeLoop_iterate (r : Rec) (env : Env) (set : Option SetN) (ks vs : Option Nat) (body : List Stmt)
    (els : Option (List Stmt)) (ifc : Bool) : ∀ (xs : List Val) (f i : Nat) (first : Bool), xs.length < f →
    (xs = [] → first = false) →
    rangeLoop r env set ks vs body els f (.sliceR xs i ifc) first = iterate (iterStep r env set ks vs body ifc) i xs := by
  intro xs
  induction xs with
  | nil =>
    intro f i first hf h
    obtain ⟨g, rfl⟩ : ∃ g, f = g + 1 := ⟨f - 1, by omega⟩
    obtain rfl := h rfl
    funext rt
    exact Props.C05.range_end_after_elements_skips_else r env set ks vs body els g i ifc rt
  | cons x xs ih =>
    intro f i first hf _
    obtain ⟨g, rfl⟩ : ∃ g, f = g + 1 := ⟨f - 1, by omega⟩
    rw [rangeLoop_cons, iterate_cons, ih g (i + 1) false (by simpa using hf) (fun _ => rfl)]

theorem getRanger_slice (es : List Val) (ifc nl : Bool) : getRanger (.slice es ifc nl) = .ok (.sliceR es 0 ifc) := rfl

theorem getRanger_ptr_slice (t : String) (es : List Val) (ifc nl : Bool) :
    getRanger (.ptr t (some (.slice es ifc nl))) = .ok (.sliceR es 0 ifc) := rfl
theorem getRanger_iface_slice (es : List Val) (ifc nl : Bool) :
    getRanger (.iface (.slice es ifc nl)) = .ok (.sliceR es 0 ifc) := rfl

/-- which `Set.Left` slot receives the index: slot 0 as soon as there is a `Set` -/
def keySlotOf (set : Option SetN) : Option Nat := if set.isSome then some 0 else none
/-- which slot receives the value: slot 1 iff the `Set` has more than one left-hand side -/
def valSlotOf (set : Option SetN) : Option Nat :=
  if set.isSome && (match set with | some st => st.left.length | none => 0) > 1 then some 1 else none

/-- what a range does once the ranger is a slice ranger over `es`: the else list (or nothing) when there is
    no element, the fold over the elements otherwise -/
def loopRes (r : Rec) (env : Env) (set : Option SetN) (body : List Stmt) (els : Option (List Stmt)) (ifc : Bool)
    (es : List Val) : M Val :=
  match es with
  | [] =>
    (match els with
     | some l => r.execList env l
     | none => pure .invalid)
  | _ :: _ => iterate (iterStep r env set (keySlotOf set) (valSlotOf set) body ifc) 0 es

theorem rangeCore_slice (r : Rec) (env : Env) (loc : Loc) (set : Option SetN) (v : Val) (body : List Stmt)
    (els : Option (List Stmt)) (es : List Val) (ifc : Bool) (hv : getRanger v = .ok (.sliceR es 0 ifc))
    (hlen : es.length < 100000) :
    rangeCore r env loc set v body els = loopRes r env set body els ifc es := by
  funext rt
  have h1 : liftP (locateP loc (getRanger v)) rt = .ok (.sliceR es 0 ifc) rt := by rw [hv]; rfl
  show (liftP (locateP loc (getRanger v)) >>= fun rg =>
    rangeLoop r env set (keySlotOf set) (valSlotOf set) body els 100000 rg true) rt = _
  rw [bind_ok h1]
  cases es with
  | nil => exact Props.C05.range_end r env set _ _ body els 99999 0 ifc true rt
  | cons x xs => rw [rangeLoop_iterate r env set _ _ body els ifc (x :: xs) 100000 0 true hlen (fun h => nomatch h)]; rfl

/-- more elements than the loop counter allows and no body that returns: outside the model -/
theorem rangeLoop_too_long (r : Rec) (env : Env) (set : Option SetN) (ks vs : Option Nat) (body : List Stmt)
    (els : Option (List Stmt)) (st : RangerSt) (first : Bool) (rt : RT) :
    rangeLoop r env set ks vs body els 0 st first rt = .unsupported "range too long" := rfl

theorem execStmt_range (r : Rec) (env : Env) (ins : Bool) (loc : Loc) (set : Option SetN) (e : Option Expr)
    (body : List Stmt) (els : Option (List Stmt)) (rt : RT) :
    execStmt r env ins (.rangeS loc set e body els) rt = stmtRes ins (execRange r env loc set e body els rt) :=
  stmtRes_bind (execRange r env loc set e body els) ins rt

theorem execList_single_range (n : Nat) (env : Env) (loc : Loc) (set : Option SetN) (e : Option Expr)
    (body : List Stmt) (els : Option (List Stmt)) (rt : RT) :
    (recAt (n + 1)).execList env [.rangeS loc set e body els] rt = execRange (recAt n) env loc set e body els rt :=
  execListF_single (recAt n) env _ _ rt (execStmt_range _ env false loc set e body els rt) rfl rfl

theorem execRange_none (r : Rec) (env : Env) (loc : Loc) (ex : Expr) (body : List Stmt) (els : Option (List Stmt))
    (rt rt1 : RT) (v : Val) (es : List Val) (ifc : Bool) (he : r.evalExpr env ex rt = .ok v rt1)
    (hv : getRanger v = .ok (.sliceR es 0 ifc)) (hlen : es.length < 100000) :
    execRange r env loc none (some ex) body els rt = loopRes r env none body els ifc es rt1 := by
  show (r.evalExpr env ex >>= fun v => rangeCore r env loc none v body els) rt = _
  rw [bind_ok he, rangeCore_slice r env loc none v body els es ifc hv hlen]

theorem execRange_none_err (r : Rec) (env : Env) (loc : Loc) (ex : Expr) (body : List Stmt) (els : Option (List Stmt))
    (rt rt1 : RT) (e : Err) (he : r.evalExpr env ex rt = .err e rt1) :
    execRange r env loc none (some ex) body els rt = .err e rt1 := by
  show (r.evalExpr env ex >>= fun v => rangeCore r env loc none v body els) rt = _
  exact bind_err he

theorem execRange_set (r : Rec) (env : Env) (loc : Loc) (st : SetN) (e : Option Expr) (rgt : Expr) (more : List Expr)
    (body : List Stmt) (els : Option (List Stmt)) (rt rt1 : RT) (v : Val) (es : List Val) (ifc : Bool)
    (hr : st.right = rgt :: more) (he : r.evalExpr env rgt rt = .ok v rt1)
    (hv : getRanger v = .ok (.sliceR es 0 ifc)) (hlen : es.length < 100000) :
    execRange r env loc (some st) e body els rt =
      (if st.isLet then withNewScopeND (loopRes r env (some st) body els ifc es) rt1
       else loopRes r env (some st) body els ifc es rt1) := by
  unfold execRange
  simp only [hr]
  rw [bind_ok he, rangeCore_slice r env loc (some st) v body els es ifc hv hlen]
  cases st.isLet <;> rfl

/-- zero-variable form: `.` is the element (unwrapped) for the body, and is put back after it -/
def step0 (r : Rec) (env : Env) (body : List Stmt) (ifc : Bool) (_ : Nat) (x : Val) : M Val :=
  withCtxND (dotOf ifc x) (r.execList env body)

/-- one-variable declaring form `{{range k := e}}`: the variable receives the INDEX, `.` the element -/
def step1 (r : Rec) (env : Env) (k : Bytes) (body : List Stmt) (ifc : Bool) (i : Nat) (x : Val) : M Val := do
  letVar k (.int i)
  withCtxND (dotOf ifc x) (r.execList env body)

/-- two-variable declaring form `{{range k, v := e}}`: `k` receives the index, `v` the ranger's value (for a
    `[]interface{}` the Interface-kinded value; lookups unwrap it), `.` is untouched -/
def step2 (r : Rec) (env : Env) (k v : Bytes) (body : List Stmt) (ifc : Bool) (i : Nat) (x : Val) : M Val := do
  letVar k (.int i)
  letVar v (elemVal ifc x)
  r.execList env body

theorem iterStep_none (r : Rec) (env : Env) (body : List Stmt) (ifc : Bool) :
    iterStep r env none (keySlotOf none) (valSlotOf none) body ifc = step0 r env body ifc := by
  funext i x rt; rfl

theorem iterStep_one (r : Rec) (env : Env) (st : SetN) (lk : Loc) (k : Bytes) (body : List Stmt) (ifc : Bool)
    (hlet : st.isLet = true) (hl : st.left = [.ident lk k]) :
    iterStep r env (some st) (keySlotOf (some st)) (valSlotOf (some st)) body ifc = step1 r env k body ifc := by
  funext i x
  -- there is no value slot: the second `rangeBind` is `pure ()`
  simp [iterStep, keySlotOf, valSlotOf, hl, rangeBind, hlet, step1, pure_bind]

theorem iterStep_two (r : Rec) (env : Env) (st : SetN) (lk lv : Loc) (k v : Bytes) (body : List Stmt) (ifc : Bool)
    (hlet : st.isLet = true) (hl : st.left = [.ident lk k, .ident lv v]) :
    iterStep r env (some st) (keySlotOf (some st)) (valSlotOf (some st)) body ifc = step2 r env k v body ifc := by
  funext i x
  simp [iterStep, keySlotOf, valSlotOf, hl, rangeBind, hlet, step2]

open JetVerif.TextOnly

def repeated (n : Nat) (cs : List Chunk) : List Chunk := (List.replicate n cs).flatten

theorem repeated_succ (n : Nat) (cs : List Chunk) : repeated (n + 1) cs = cs ++ repeated n cs := by
  simp [repeated, List.replicate_succ]

theorem step0_texts (m : Nat) (env : Env) (loc : Loc) (bs : List Bytes) (ifc : Bool) (i : Nat) (x : Val) (rt : RT) :
    step0 (recAt (m + 1)) env (bs.map (Stmt.text loc)) ifc i x rt =
      .ok .invalid (appendTo rt rt.writer (bs.map litChunk)) := by
  unfold step0 withCtxND
  rw [exec_texts_body m env loc bs]
  simp only [appendTo]
  cases rt.writer.idx <;> rfl

theorem iterate_step0_texts (m : Nat) (env : Env) (loc : Loc) (bs : List Bytes) (ifc : Bool) :
    ∀ (xs : List Val) (i : Nat) (rt : RT),
      iterate (step0 (recAt (m + 1)) env (bs.map (Stmt.text loc)) ifc) i xs rt =
        .ok .invalid (appendTo rt rt.writer (repeated xs.length (bs.map litChunk))) := by
  intro xs
  induction xs with
  | nil => intro i rt; simp [iterate_nil, repeated, appendTo_nil]
  | cons x xs ih =>
    intro i rt
    rw [iterate_cons_ok _ i x xs rt _ (step0_texts m env loc bs ifc i x rt), ih, appendTo_writer,
      appendTo_appendTo, List.length_cons, repeated_succ]

/-! ### the erasure of the parser's tree for a range node

  `IfChain.eraseS` restates `Driver/ExecSrc.lean`'s `stmtA` (a `partial def`) for text nodes and `if` nodes
  only; it answers `none` on `.branch false …`.  Its `.branch` case with `isIf = false` is restated here:
  the node at line `l` becomes `.rangeS ⟨path, l⟩ set' e' body' els'` with `set'` = `setA` of the `Set`
  (`eraseSet`: position, `isLet`, `lookup`, both sides through `exprA`), `e'` = `optA` of the expression,
  and body / else list through `list.mapM stmtA` / `optListA` (here `IfChain.eraseL` / `eraseO`, i.e. bodies
  made of text and `if` nodes; expressions are the leaf expressions of `IfChain.eraseE`). -/

def eraseEs (path : Bytes) : List Parse.PExpr → Option (List Expr)
  | [] => some []
  | e :: rest =>
    match eraseE path e, eraseEs path rest with
    | some a, some b => some (a :: b)
    | _, _ => none

/-- `setA` -/
def eraseSet (path : Bytes) (s : Parse.PSet) : Option SetN :=
  match eraseEs path s.left, eraseEs path s.right with
  | some l, some r => some { loc := ⟨path, s.line⟩, isLet := s.isLet, lookup := s.lookup, left := l, right := r }
  | _, _ => none

/-- `stmtA` on a range node (everything else: `IfChain.eraseS`) -/
def eraseR (path : Bytes) : Parse.PStmt → Option Stmt
  | .branch false l set e _ list els =>
    let set' : Option (Option SetN) := match set with
      | none => some none
      | some x => (eraseSet path x).map some
    let e' : Option (Option Expr) := match e with
      | none => some none
      | some x => (eraseE path x).map some
    match set', e', eraseL path list, eraseO path els with
    | some s, some ex, some body, some el => some (.rangeS ⟨path, l⟩ s ex body el)
    | _, _, _, _ => none
  | s => eraseS path s

open JetVerif.StmtGrammar

/-- the evaluator's statement for `{{range x}}texts[{{else}}texts']{{end}}`, every node on line 1 of `path` -/
def rangeStmt0 (path : Bytes) (name : Bytes) (bs : List Bytes) (fin : Option (List Bytes)) : Stmt :=
  .rangeS ⟨path, 1⟩ none (some (.ident ⟨path, 1⟩ name)) (bs.map (Stmt.text ⟨path, 1⟩)) (eFin path fin)

/-- the evaluator's statement for `{{range k, v := x}}texts[{{else}}texts']{{end}}` -/
def rangeStmt2 (path : Bytes) (k v name : Bytes) (bs : List Bytes) (fin : Option (List Bytes)) : Stmt :=
  .rangeS ⟨path, 1⟩
    (some { loc := ⟨path, 1⟩, isLet := true, lookup := false,
            left := [.ident ⟨path, 1⟩ k, .ident ⟨path, 1⟩ v], right := [.ident ⟨path, 1⟩ name] })
    none (bs.map (Stmt.text ⟨path, 1⟩)) (eFin path fin)

theorem run_rangeStmt0 (m : Nat) (env : Env) (path name : Bytes) (bs : List Bytes) (fin : Option (List Bytes))
    (rt : RT) (v : Val) (es : List Val) (ifc : Bool)
    (hx : lookupVal env rt name = some v) (hv : getRanger v = .ok (.sliceR es 0 ifc)) (hlen : es.length < 100000) :
    (recAt (m + 2)).execList env [rangeStmt0 path name bs fin] rt =
      .ok .invalid (appendTo rt rt.writer
        (match es with
         | [] => (fin.getD []).map litChunk
         | _ :: _ => repeated es.length (bs.map litChunk))) := by
  have he : (recAt (m + 1)).evalExpr env (.ident ⟨path, 1⟩ name) rt = .ok v rt := by
    rw [evalExpr_ident, hx]
  rw [rangeStmt0, execList_single_range, execRange_none (recAt (m + 1)) env _ _ _ _ _ _ v es ifc he hv hlen]
  cases es with
  | nil =>
    cases fin with
    | none => simp [loopRes, eFin, appendTo_nil]; rfl
    | some f => simpa [loopRes, eFin] using exec_texts_body m env ⟨path, 1⟩ f _
  | cons x xs =>
    simp only [loopRes, iterStep_none]
    exact iterate_step0_texts m env ⟨path, 1⟩ bs ifc (x :: xs) 0 _

/-! ### the two-variable form over a text body, from the runtime `Execute` sets up

  The loop scope is a new frame; `letVar` re-assigns `k` and `v` in it each time round, the text goes to
  `Execute`'s writer.  `Writable` is what is needed for that and is kept by every step. -/

def Writable (rt : RT) : Prop :=
  (∃ cur rest f vs, rt.scope = cur :: rest ∧ frameAt rt cur = some f ∧ f.vars = some vs) ∧ rt.writer = .top

theorem letVar_writable (n : Bytes) (v : Val) (rt : RT) (h : Writable rt) :
    ∃ rt', letVar n v rt = .ok () rt' ∧ Writable rt' ∧ rt'.sink = rt.sink ∧ rt'.log = rt.log ∧ rt'.scope = rt.scope := by
  obtain ⟨⟨cur, rest, f, vs, hs, hf, hv⟩, hw⟩ := h
  refine ⟨setFrame rt cur { f with vars := some (aset n v vs) }, ?_, ⟨⟨cur, rest, { f with vars := some (aset n v vs) }, aset n v vs, hs, ?_, rfl⟩, hw⟩, rfl, rfl, rfl⟩
  · simp [letVar, hs, hf, hv]
  · exact List.getElem?_set_self (List.getElem?_eq_some_iff.mp hf).1

theorem step2_texts (m : Nat) (env : Env) (loc : Loc) (k v : Bytes) (bs : List Bytes) (ifc : Bool) (i : Nat) (x : Val)
    (rt : RT) (h : Writable rt) :
    ∃ rt', step2 (recAt (m + 1)) env k v (bs.map (Stmt.text loc)) ifc i x rt = .ok .invalid rt' ∧ Writable rt' ∧
      rt'.sink 0 = (bs.map litChunk).reverse ++ rt.sink 0 ∧ rt'.log = rt.log ∧ rt'.scope = rt.scope := by
  obtain ⟨rt1, h1, w1, s1, l1, c1⟩ := letVar_writable k (.int i) rt h
  obtain ⟨rt2, h2, w2, s2, l2, c2⟩ := letVar_writable v (elemVal ifc x) rt1 w1
  refine ⟨appendTo rt2 rt2.writer (bs.map litChunk), ?_, ?_, ?_, ?_, ?_⟩
  · show (letVar k (.int i) >>= fun _ => letVar v (elemVal ifc x) >>= fun _ => (recAt (m + 1)).execList env _) rt = _
    rw [bind_ok h1, bind_ok h2, exec_texts_body]
  · obtain ⟨⟨cur, rest, f, vs, hs, hf, hv⟩, hw⟩ := w2
    exact ⟨⟨cur, rest, f, vs, by simpa [appendTo, hw, Wr.idx] using hs, by simpa [appendTo, hw, Wr.idx, frameAt] using hf, hv⟩,
      by simp [appendTo_writer, hw]⟩
  · simp [appendTo, w2.2, Wr.idx, s2, s1]
  · simp [appendTo, w2.2, Wr.idx, l2, l1]
  · simp [appendTo, w2.2, Wr.idx, c2, c1]

theorem iterate_step2_texts (m : Nat) (env : Env) (loc : Loc) (k v : Bytes) (bs : List Bytes) (ifc : Bool) :
    ∀ (xs : List Val) (i : Nat) (rt : RT), Writable rt →
      ∃ rt', iterate (step2 (recAt (m + 1)) env k v (bs.map (Stmt.text loc)) ifc) i xs rt = .ok .invalid rt' ∧ Writable rt' ∧
        rt'.sink 0 = (repeated xs.length (bs.map litChunk)).reverse ++ rt.sink 0 ∧ rt'.log = rt.log ∧ rt'.scope = rt.scope := by
  intro xs
  induction xs with
  | nil => intro i rt h; exact ⟨rt, rfl, h, by simp [repeated], rfl, rfl⟩
  | cons x xs ih =>
    intro i rt h
    obtain ⟨rt1, h1, w1, s1, l1, c1⟩ := step2_texts m env loc k v bs ifc i x rt h
    obtain ⟨rt2, h2, w2, s2, l2, c2⟩ := ih (i + 1) rt1 w1
    refine ⟨rt2, ?_, w2, ?_, by rw [l2, l1], by rw [c2, c1]⟩
    · rw [iterate_cons_ok _ i x xs rt rt1 h1, h2]
    · rw [s2, s1, List.length_cons, repeated_succ]; simp

theorem run_rangeStmt2_init (m : Nat) (env : Env) (path k vn name : Bytes) (bs : List Bytes) (fin : Option (List Bytes))
    (t : Tmpl) (vars : List (Bytes × Val)) (data : Val) (v : Val) (es : List Val) (ifc : Bool)
    (hx : identVal env vars data name = some v) (hv : getRanger v = .ok (.sliceR es 0 ifc)) (hlen : es.length < 100000) :
    ∃ rt', (recAt (m + 2)).execList env [rangeStmt2 path k vn name bs fin] (initRT t vars data) = .ok .invalid rt' ∧
      rt'.sink 0 = (match es with
         | [] => (fin.getD []).map litChunk
         | _ :: _ => repeated es.length (bs.map litChunk)).reverse ∧ rt'.log = [] := by
  have he : (recAt (m + 1)).evalExpr env (.ident ⟨path, 1⟩ name) (initRT t vars data) = .ok v (initRT t vars data) := by
    rw [evalExpr_ident, lookupVal_initRT, hx]
  rw [rangeStmt2, execList_single_range,
    execRange_set (recAt (m + 1)) env _ _ none _ [] _ _ _ _ v es ifc rfl he hv hlen]
  simp only [if_true]
  let rtN : RT := { initRT t vars data with
    frames := (initRT t vars data).frames ++ [{ vars := some [], blocks := t.blocks }], scope := 1 :: [0] }
  have hN : newScope (initRT t vars data) = .ok () rtN := rfl
  have wN : Writable rtN := ⟨⟨1, [0], { vars := some [], blocks := t.blocks }, [], rfl, rfl, rfl⟩, rfl⟩
  unfold withNewScopeND
  rw [bind_ok hN]
  cases es with
  | nil =>
    cases fin with
    | none => exact ⟨_, rfl, rfl, rfl⟩
    | some f =>
      simp only [loopRes, eFin, Option.map]
      rw [bind_ok (exec_texts_body m env _ f rtN)]
      exact ⟨_, rfl, by simp [appendTo, rtN, initRT, Wr.idx], rfl⟩
  | cons x xs =>
    simp only [loopRes]
    rw [iterStep_two _ env _ ⟨path, 1⟩ ⟨path, 1⟩ k vn _ ifc rfl rfl]
    obtain ⟨rt2, h2, w2, s2, l2, c2⟩ := iterate_step2_texts m env ⟨path, 1⟩ k vn bs ifc (x :: xs) 0 rtN wN
    rw [bind_ok h2]
    have hsc : rt2.scope = 1 :: [0] := c2
    refine ⟨{ rt2 with scope := [0] }, ?_, ?_, ?_⟩
    · simp [releaseScope, bind_def, hsc]; rfl
    · simpa [rtN, initRT] using s2
    · simpa [rtN, initRT] using l2

end JetVerif.RangeChain
