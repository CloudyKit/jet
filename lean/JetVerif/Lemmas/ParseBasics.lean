/-
  Symbolic execution of the parser model's token buffer (`next`, `peek`, `nextNonSpace`, `peekNonSpace`, `backup`,
  `lineNumber`) on states of known shape: `stT` (namespace TextOnly), for any lexer position (used by
  Lemmas/TextOnly.lean), and `mkS`, its instance at position 0, where `lineNumber` is 1 throughout (the ladders under
  Props/C04P.lean and Props/C05P.lean, whose statements are about grouping only).  `bind_apply` (with `PRes.andThen`) is
  the equation `simp` steps through a bind of `PM` with.  At the end the inversions of the two entry points, used by the
  Props files about whole templates: what an outcome of `parseItems` says about `parseTemplate` (`parseItems_eq_*`) and
  an `ok` of `parseSource` about `lexRun` (`parseSource_eq_ok`).
-/
import JetVerif.Model.Parse

namespace JetVerif.TextOnly
open JetVerif.Parse

def stT (b : PSt) (ts : List Item) (t0 : Item) (pc : Nat) (lp : Int) : PSt :=
  { b with toks := ts, t0 := t0, peekCount := pc, lastPos := lp }

end JetVerif.TextOnly

namespace JetVerif.Parse
open JetVerif.TextOnly (stT)

def mkS (b : PSt) (ts : List Item) (t0 : Item) (pc : Nat) : PSt :=
  { b with toks := ts, t0 := t0, peekCount := pc, lastPos := 0 }

@[simp] theorem mkS_toks (b ts t0 pc) : (mkS b ts t0 pc).toks = ts := rfl
@[simp] theorem mkS_pc (b ts t0 pc) : (mkS b ts t0 pc).peekCount = pc := rfl
@[simp] theorem mkS_t0 (b ts t0 pc) : (mkS b ts t0 pc).t0 = t0 := rfl
@[simp] theorem mkS_lastPos (b ts t0 pc) : (mkS b ts t0 pc).lastPos = 0 := rfl
@[simp] theorem mkS_input (b ts t0 pc) : (mkS b ts t0 pc).input = b.input := rfl
@[simp] theorem mkS_mkS (b ts t0 pc ts' t0' pc') : mkS (mkS b ts t0 pc) ts' t0' pc' = mkS b ts' t0' pc' := rfl

def PRes.andThen {α β} (r : PRes α) (f : α → PM β) : PRes β :=
  match r with
  | .ok a s' => f a s'
  | .err l m => .err l m
  | .crash w => .crash w
  | .fuel => .fuel
  | .unsupported w => .unsupported w

theorem bind_apply {α β} (m : PM α) (f : α → PM β) (s : PSt) : (m >>= f) s = (m s).andThen f := rfl

@[simp] theorem andThen_ok {α β} (a : α) (s : PSt) (f : α → PM β) : (PRes.ok a s).andThen f = f a s := rfl

@[simp] theorem pure_apply {α} (a : α) (s : PSt) : (pure a : PM α) s = .ok a s := rfl

@[simp] theorem lineNumber_mkS (b ts t0 pc) : lineNumber (mkS b ts t0 pc) = .ok 1 (mkS b ts t0 pc) := by
  simp [lineNumber, Lex.slice, countNl]

@[simp] theorem backup_mkS (b ts t0 pc) : backup (mkS b ts t0 pc) = .ok () (mkS b ts t0 (pc + 1)) := rfl

/-! ### the token buffer, for any lexer position (`mkS b ts t0 pc` is `stT b ts t0 pc 0`) -/

theorem next_stT (b : PSt) (t : Item) (ts : List Item) (x : Item) (lp : Int) :
    next (stT b (t :: ts) x 0 lp) = .ok t (stT b ts t 0 t.pos) := rfl

theorem next_stT_pushed (b : PSt) (ts : List Item) (x : Item) (lp : Int) :
    next (stT b ts x 1 lp) = .ok x (stT b ts x 0 lp) := rfl

theorem peek_stT (b : PSt) (t : Item) (ts : List Item) (x : Item) (lp : Int) :
    peek (stT b (t :: ts) x 0 lp) = .ok t (stT b ts t 1 t.pos) := rfl

theorem peek_stT_pushed (b : PSt) (ts : List Item) (x : Item) (lp : Int) :
    peek (stT b ts x 1 lp) = .ok x (stT b ts x 1 lp) := rfl

theorem nextNonSpace_stT_pushed (b : PSt) (ts : List Item) (x : Item) (lp : Int) (hs : x.typ ≠ Tok.space) :
    nextNonSpace (stT b ts x 1 lp) = .ok x (stT b ts x 0 lp) := by
  show nextNonSpaceLoop (ts.length + 1 + 2) _ = _
  simp [nextNonSpaceLoop, bind_apply, next_stT_pushed, hs]

@[simp] theorem next_cons (b : PSt) (t : Item) (ts : List Item) (x : Item) (h : t.pos = 0) :
    next (mkS b (t :: ts) x 0) = .ok t (mkS b ts t 0) := by
  have := next_stT b t ts x 0; rwa [h] at this

@[simp] theorem next_pushed (b : PSt) (ts : List Item) (x : Item) :
    next (mkS b ts x 1) = .ok x (mkS b ts x 0) := next_stT_pushed b ts x 0

@[simp] theorem peek_cons (b : PSt) (t : Item) (ts : List Item) (x : Item) (h : t.pos = 0) :
    peek (mkS b (t :: ts) x 0) = .ok t (mkS b ts t 1) := by
  have := peek_stT b t ts x 0; rwa [h] at this

@[simp] theorem peek_pushed (b : PSt) (ts : List Item) (x : Item) :
    peek (mkS b ts x 1) = .ok x (mkS b ts x 1) := peek_stT_pushed b ts x 0

theorem nextNonSpaceLoop_cons (b : PSt) (t : Item) (ts : List Item) (x : Item) (n : Nat)
    (h : t.pos = 0) (hs : t.typ ≠ Tok.space) :
    nextNonSpaceLoop (n + 1) (mkS b (t :: ts) x 0) = .ok t (mkS b ts t 0) := by
  simp [nextNonSpaceLoop, bind_apply, h, hs]

@[simp] theorem nextNonSpace_cons (b : PSt) (t : Item) (ts : List Item) (x : Item)
    (h : t.pos = 0) (hs : t.typ ≠ Tok.space) :
    nextNonSpace (mkS b (t :: ts) x 0) = .ok t (mkS b ts t 0) := by
  simp only [nextNonSpace, mkS_toks, mkS_pc, List.length_cons]
  exact nextNonSpaceLoop_cons b t ts x _ h hs

@[simp] theorem nextNonSpace_pushed (b : PSt) (ts : List Item) (x : Item) (hs : x.typ ≠ Tok.space) :
    nextNonSpace (mkS b ts x 1) = .ok x (mkS b ts x 0) := nextNonSpace_stT_pushed b ts x 0 hs

@[simp] theorem peekNonSpace_cons (b : PSt) (t : Item) (ts : List Item) (x : Item)
    (h : t.pos = 0) (hs : t.typ ≠ Tok.space) :
    peekNonSpace (mkS b (t :: ts) x 0) = .ok t (mkS b ts t 1) := by
  simp [peekNonSpace, bind_apply, h, hs]

@[simp] theorem peekNonSpace_pushed (b : PSt) (ts : List Item) (x : Item) (hs : x.typ ≠ Tok.space) :
    peekNonSpace (mkS b ts x 1) = .ok x (mkS b ts x 1) := by
  simp [peekNonSpace, bind_apply, hs]

/-! ### `parseItems` only relabels the outcome of `parseTemplate`; `parseSource` runs `lexRun` first -/

theorem parseItems_eq_ok {cfg : Cfg} {name input : Bytes} {toks : List Item} {t : PTmpl}
    (h : parseItems cfg name input toks = .ok t) :
    ∃ rl nodes s, parseTemplate cfg (fuelFor toks) { input := input, name := name, toks := toks } = .ok (rl, nodes) s ∧
      t = { name := name, ext := s.ext, imports := s.imports, passed := s.passed, rootLine := rl, root := nodes } := by
  unfold parseItems at h
  split at h <;> cases h
  exact ⟨_, _, _, ‹_›, rfl⟩

theorem parseItems_eq_err {cfg : Cfg} {name input : Bytes} {toks : List Item} {l : Nat} {m : Msg}
    (h : parseItems cfg name input toks = .err l m) :
    parseTemplate cfg (fuelFor toks) { input := input, name := name, toks := toks } = .err l m := by
  unfold parseItems at h
  split at h <;> cases h
  assumption

theorem parseItems_eq_crash {cfg : Cfg} {name input : Bytes} {toks : List Item} {w : String}
    (h : parseItems cfg name input toks = .crash w) :
    parseTemplate cfg (fuelFor toks) { input := input, name := name, toks := toks } = .crash w := by
  unfold parseItems at h
  split at h <;> cases h
  assumption

theorem parseItems_eq_fuel {cfg : Cfg} {name input : Bytes} {toks : List Item}
    (h : parseItems cfg name input toks = .fuel) :
    parseTemplate cfg (fuelFor toks) { input := input, name := name, toks := toks } = .fuel := by
  unfold parseItems at h
  split at h <;> cases h
  assumption

theorem parseSource_eq_ok {cfg : Cfg} {d : Lex.Delims} {name input : Bytes} {t : PTmpl}
    (h : parseSource cfg d name input = .ok t) :
    ∃ evs, Lex.lexRun d input = .done evs ∧ parseItems cfg name input (itemsOf evs) = .ok t := by
  unfold parseSource at h
  split at h <;> first | cases h | exact ⟨_, ‹_›, h⟩

end JetVerif.Parse
