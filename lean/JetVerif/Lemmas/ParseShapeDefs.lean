/-
  The shape of the trees the parser model builds: the predicates.

  Lemmas/EvalTotal.lean proves the evaluator total on syntax trees satisfying `ExprWf`, `SetWf`, `RangeHeadWf`,
  `PipeWf`, `CmdWf`, `StmtWf`, `TmplWf` (Lemmas/EvalWf.lean: the shapes the evaluator relies on).  The predicates below
  say the same of the PARSER's trees (`PExpr`, `PSet`, `PCmd`, `PPipe`, `PParam`, `PStmt`, `PTmpl` of
  Model/Parse.lean): Lemmas/ParseShape.lean proves them of every production, Lemmas/ShapeErase.lean proves that the
  erasure of Driver/ExecSrc.lean maps them to the evaluator's predicates.
-/
import JetVerif.Model.Parse

namespace JetVerif.Parse

/-- the node is the pipe slot marker `_` -/
def PExpr.isUnd : PExpr → Bool
  | .underscore _ => true
  | _ => false

/-- the test `multiplicativeLoop` makes before it builds a multiplicative node: `isMulT` of Lemmas/ParseLevel.lean
    under the name the shape predicates use; `Tok.mul_range` says which items pass it -/
def MulTok (op : Tok) : Prop := Tok.mul.code ≤ op.code ∧ op.code ≤ Tok.mod.code

/-- `parseArgumentsLoop`: a `_` among the arguments sets `hasSlot` -/
def SlotShape (args : List PExpr) (slot : Bool) : Prop := args.any PExpr.isUnd = true → slot = true

mutual
def PExpr.Shaped : PExpr → Prop
  | .ident _ _ => True
  | .field _ _ => True
  | .chain _ b _ => PExpr.Shaped b
  | .underscore _ => True
  | .nilLit _ => True
  | .boolLit _ _ => True
  | .strLit _ _ => True
  | .numLit _ _ _ => True
  | .binary k _ op lo r => PExpr.ShapedOpt lo ∧ PExpr.Shaped r ∧ (k = BinKind.mul → MulTok op)
  | .not _ e => PExpr.Shaped e
  | .ternary _ c a b => PExpr.Shaped c ∧ PExpr.Shaped a ∧ PExpr.Shaped b
  | .call _ b args slot => PExpr.Shaped b ∧ PExpr.ShapedList args ∧ SlotShape args slot
  | .index _ b i => PExpr.Shaped b ∧ PExpr.ShapedOpt i
  | .slice _ b i j => PExpr.Shaped b ∧ PExpr.ShapedOpt i ∧ PExpr.ShapedOpt j
def PExpr.ShapedOpt : Option PExpr → Prop
  | none => True
  | some e => PExpr.Shaped e
def PExpr.ShapedList : List PExpr → Prop
  | [] => True
  | e :: es => PExpr.Shaped e ∧ PExpr.ShapedList es
end

/-- the shape predicate of a type of parser results: the postcondition `HoldsOk` (Lemmas/ParseShape.lean) gives a
    production -/
class Shp (α : Type) where
  ok : α → Prop

instance : Shp PExpr := ⟨PExpr.Shaped⟩
instance : Shp Nat := ⟨fun _ => True⟩
instance : Shp Item := ⟨fun _ => True⟩
instance : Shp Tok := ⟨fun _ => True⟩
instance : Shp Unit := ⟨fun _ => True⟩
instance : Shp Bool := ⟨fun _ => True⟩
instance : Shp UInt8 := ⟨fun _ => True⟩
instance : Shp PSt := ⟨fun _ => True⟩
instance {α β} [Shp α] [Shp β] : Shp (α × β) := ⟨fun p => Shp.ok p.1 ∧ Shp.ok p.2⟩
instance {α β} [Shp α] [Shp β] : Shp (α ⊕ β) :=
  ⟨fun p => match p with | .inl a => Shp.ok a | .inr b => Shp.ok b⟩
instance {α} [Shp α] : Shp (Option α) := ⟨fun o => ∀ a, o = some a → Shp.ok a⟩
instance {α} [Shp α] : Shp (List α) := ⟨fun l => ∀ a, a ∈ l → Shp.ok a⟩

/-- a left side: `assignLeftLoop` accepts only assignable nodes (identifier, field, chain, `_`), and
    `assignmentOrExpression` rejects `:=` with a left side that is not an identifier or `_` -/
def LeftShape (isLet : Bool) (e : PExpr) : Prop :=
  assignable e.nt = true ∧ (isLet = true → e.nt = NT.ident ∨ e.nt = NT.underscore)

/-- what every assignment node has, in a range header or not: shaped operands, assignable left sides, at
    least one of each, and the two-target lookup form only with two left sides -/
def PSet.Shaped (s : PSet) : Prop :=
  Shp.ok s.left ∧ Shp.ok s.right ∧ (∀ l, l ∈ s.left → LeftShape s.isLet l) ∧ s.left ≠ [] ∧ s.right ≠ [] ∧
    (s.lookup = true → s.left.length = 2)
instance : Shp PSet := ⟨PSet.Shaped⟩

/-- outside a range header: as many right sides as left sides unless it is the lookup form -/
def PSet.LenOk (s : PSet) : Prop := s.lookup = false → s.left.length ≤ s.right.length

def PSet.LenOkOpt : Option PSet → Prop
  | none => True
  | some s => s.LenOk

def PCmd.argList (c : PCmd) : List PExpr := c.args.getD []

def PCmd.Shaped (c : PCmd) : Prop := Shp.ok c.base ∧ Shp.ok c.args ∧ SlotShape c.argList c.hasSlot
instance : Shp PCmd := ⟨PCmd.Shaped⟩

/-- `pipeline` parses a first command before it looks for `|` -/
def PPipe.Shaped (p : PPipe) : Prop := p.cmds ≠ [] ∧ Shp.ok p.cmds
instance : Shp PPipe := ⟨PPipe.Shaped⟩

def PParam.Shaped (p : PParam) : Prop := Shp.ok p.dflt
instance : Shp PParam := ⟨PParam.Shaped⟩

mutual
def PStmt.Shaped : PStmt → Prop
  | .text _ _ => True
  | .action _ set pipe => Shp.ok set ∧ PSet.LenOkOpt set ∧ Shp.ok pipe
  | .branch isIf _ set e _ list els =>
    -- an `if` header's assignment has matching sides; a header has an assignment or an expression
    Shp.ok set ∧ (isIf = true → PSet.LenOkOpt set) ∧ (set = none → e ≠ none) ∧ Shp.ok e ∧
      PStmt.ShapedList list ∧ PStmt.ShapedEls els
  | .block _ _ params ctx _ list content =>
    Shp.ok params ∧ Shp.ok ctx ∧ PStmt.ShapedList list ∧ PStmt.ShapedEls content
  | .yield _ _ params ctx content isContent =>
    (isContent = false → params.isSome = true) ∧ Shp.ok params ∧ Shp.ok ctx ∧ PStmt.ShapedEls content
  | .include _ name ctx => Shp.ok name ∧ Shp.ok ctx
  | .tryS _ _ list catchC => PStmt.ShapedList list ∧ PStmt.ShapedCatch catchC
  | .ret _ e => Shp.ok e
  | .endM => True
  | .elseM _ => True
  | .contentM => True
  | .catchM _ _ _ list => PStmt.ShapedList list
def PStmt.ShapedList : List PStmt → Prop
  | [] => True
  | e :: es => PStmt.Shaped e ∧ PStmt.ShapedList es
def PStmt.ShapedEls : Option (Nat × List PStmt) → Prop
  | none => True
  | some (_, list) => PStmt.ShapedList list
def PStmt.ShapedCatch : Option (Nat × Option (Nat × Bytes) × Nat × List PStmt) → Prop
  | none => True
  | some (_, _, _, list) => PStmt.ShapedList list
end

instance : Shp PStmt := ⟨PStmt.Shaped⟩

def PTmpl.Shaped (t : PTmpl) : Prop := (∀ n ∈ t.root, PStmt.Shaped n) ∧ (∀ b ∈ t.passed, PStmt.Shaped b.2)

theorem PExpr.shapedList_iff (l : List PExpr) : PExpr.ShapedList l ↔ Shp.ok l := by
  show _ ↔ ∀ e, e ∈ l → PExpr.Shaped e
  induction l with
  | nil => simp [PExpr.ShapedList]
  | cons e es ih => simp [PExpr.ShapedList, ih]

theorem PExpr.shapedOpt_iff (o : Option PExpr) : PExpr.ShapedOpt o ↔ Shp.ok o := by
  show _ ↔ ∀ e, o = some e → PExpr.Shaped e
  cases o <;> simp [PExpr.ShapedOpt]

theorem PStmt.shapedList_iff (l : List PStmt) : PStmt.ShapedList l ↔ Shp.ok l := by
  show _ ↔ ∀ e, e ∈ l → PStmt.Shaped e
  induction l with
  | nil => simp [PStmt.ShapedList]
  | cons e es ih => simp [PStmt.ShapedList, ih]

end JetVerif.Parse
