/-
  Well-formed syntax: the shapes the parser produces that the evaluator relies on, no more.  Each
  clause names the production that guarantees it, by its name in Model/Parse.lean (where parse.go has one
  function, the model has that function and its loops).  Used by Lemmas/EvalTotal.lean (from
  such syntax the evaluator's own crash sites are unreachable) and Lemmas/ShapeErase.lean (the parser
  model produces it).
-/
import JetVerif.Model.Eval

namespace JetVerif.Eval

/-- parser: `multiplicativeLoop` builds a multiplicative node only for `*`, `/`, `%` -/
def MulOp (op : Tok) : Prop := op = Tok.mul ∨ op = Tok.div ∨ op = Tok.mod

/-- parser: `parseArgumentsLoop` sets `hasSlot` when it meets a `_` argument -/
def SlotOk (args : List Expr) (hasSlot : Bool) : Prop := args.any isUnderscore = true → hasSlot = true

mutual
def ExprWf : Expr → Prop
  | .chain _ base _ => ExprWf base
  | .add _ _ l r => ExprOWf l ∧ ExprWf r
  | .mul _ op l r => ExprWf l ∧ ExprWf r ∧ MulOp op                 -- parser: multiplicativeLoop
  | .cmp _ _ l r => ExprWf l ∧ ExprWf r
  | .numcmp _ _ l r => ExprWf l ∧ ExprWf r
  | .logic _ _ l r => ExprWf l ∧ ExprWf r
  | .not _ e => ExprWf e
  | .ternary _ c l r => ExprWf c ∧ ExprWf l ∧ ExprWf r
  | .call _ base args _ hasSlot => ExprWf base ∧ ExprsWf args ∧ SlotOk args hasSlot   -- parser: parseArgumentsLoop
  | .index _ b i => ExprWf b ∧ ExprWf i
  | .slice _ b i j => ExprWf b ∧ ExprOWf i ∧ ExprOWf j
  | .ident _ _ => True
  | .field _ _ => True
  | .underscore _ => True
  | .nilLit _ => True
  | .boolLit _ _ => True
  | .strLit _ _ => True
  | .numLit _ _ _ _ _ _ _ => True
def ExprsWf : List Expr → Prop
  | [] => True
  | e :: es => ExprWf e ∧ ExprsWf es
def ExprOWf : Option Expr → Prop
  | none => True
  | some e => ExprWf e
end

theorem ExprsWf.mem : ∀ {es : List Expr}, ExprsWf es → ∀ e ∈ es, ExprWf e
  | [], _ => nofun
  | x :: xs, hw => by
    rw [ExprsWf] at hw
    exact List.forall_mem_cons.mpr ⟨hw.1, ExprsWf.mem hw.2⟩

/-- what `executeSet` can assign to.  parser: `assignLeftLoop` accepts only `assignable` nodes
    (identifier, field, chain, `_`) -/
def LeftSetOk : Expr → Prop
  | .ident _ _ => True
  | .field _ _ => True
  | .chain _ _ _ => True
  | .underscore _ => True
  | _ => False

/-- a left side of an assignment.  parser: `assignLeftLoop` (assignable), and
    `assignmentOrExpression` rejects `:=` with a left side that is not an identifier or `_` -/
def LeftOk (isLet : Bool) : Expr → Prop
  | .ident _ _ => True
  | .underscore _ => True
  | .field _ _ => isLet = false
  | .chain _ _ _ => isLet = false
  | _ => False

/-- an assignment of an action or an `if` header -/
structure SetWf (s : SetN) : Prop where
  /-- parser: assignRightLoop parses every right side with `expression` -/
  right : ExprsWf s.right
  /-- parser: assignLeftLoop / the `:=` check of assignmentOrExpression -/
  left : ∀ l ∈ s.left, LeftOk s.isLet l
  /-- parser: assignmentOrExpression sets IndexExprGetLookup only for two left sides and one
      (index) right side -/
  look : s.lookup = true → ∃ l0 l1 rgt rest, s.left = [l0, l1] ∧ s.right = rgt :: rest
  /-- parser: assignmentOrExpression otherwise insists on as many right sides as left sides -/
  len : s.lookup = false → s.left.length ≤ s.right.length

def SetOWf : Option SetN → Prop
  | none => True
  | some s => SetWf s

/-- a left side of a range assignment: `:=` declares (any other node kind is outside the model),
    `=` goes through executeSet -/
def RangeLeftOk (isLet : Bool) (l : Expr) : Prop := isLet = true ∨ LeftSetOk l

structure RangeSetWf (s : SetN) : Prop where
  /-- parser: assignLeftLoop parses at least one left side -/
  leftNe : s.left ≠ []
  /-- parser: assignLeftLoop (assignable) -/
  left : ∀ l ∈ s.left, RangeLeftOk s.isLet l
  /-- parser: assignmentOrExpression in range context demands exactly one right side -/
  right : ∃ rgt rest, s.right = rgt :: rest ∧ ExprWf rgt

/-- parser: parseControl stores either the assignment or the expression -/
def RangeHeadWf : Option SetN → Option Expr → Prop
  | some s, _ => RangeSetWf s
  | none, some e => ExprWf e
  | none, none => False

/-- only the first command of a pipeline is called without a piped value -/
structure CmdWf (first : Bool) (c : Cmd) : Prop where
  base : ExprWf c.base
  args : ExprsWf c.args
  /-- parser: parseArgumentsLoop (via `command`) -/
  slot : first = true → SlotOk c.args c.hasSlot

/-- parser: `pipeline` parses a first command before looking for `|` -/
def PipeWf (p : Pipe) : Prop :=
  match p.cmds with
  | [] => False
  | c0 :: rest => CmdWf true c0 ∧ ∀ c ∈ rest, CmdWf false c

def PipeOWf : Option Pipe → Prop
  | none => True
  | some p => PipeWf p

def ParamsWf (ps : List Param) : Prop := ∀ p ∈ ps, ExprOWf p.dflt

def ParamsOWf : Option (List Param) → Prop
  | none => True
  | some ps => ParamsWf ps

mutual
def StmtWf : Stmt → Prop
  | .text _ _ => True
  | .action _ set pipe => SetOWf set ∧ PipeOWf pipe
  | .ifS _ set cond thn els => SetOWf set ∧ ExprWf cond ∧ StmtsWf thn ∧ StmtsOWf els
  | .rangeS _ set e body els => RangeHeadWf set e ∧ StmtsWf body ∧ StmtsOWf els
  | .block _ _ params ctx body content => ParamsWf params ∧ ExprOWf ctx ∧ StmtsWf body ∧ StmtsOWf content
  | .yield _ _ params ctx content isContent =>
      -- parser: parseYield builds a node without parameter list only for `yield content`
      (isContent = false → params.isSome = true) ∧ ParamsOWf params ∧ ExprOWf ctx ∧ StmtsOWf content
  | .include _ name ctx => ExprWf name ∧ ExprOWf ctx
  | .tryS _ body _ _ cb => StmtsWf body ∧ StmtsOWf cb
  | .ret _ e => ExprWf e
def StmtsWf : List Stmt → Prop
  | [] => True
  | s :: ss => StmtWf s ∧ StmtsWf ss
def StmtsOWf : Option (List Stmt) → Prop
  | none => True
  | some l => StmtsWf l
end

theorem StmtsWf.mem : ∀ {ss : List Stmt}, StmtsWf ss → ∀ s ∈ ss, StmtWf s
  | [], _ => nofun
  | x :: xs, hw => by
    rw [StmtsWf] at hw
    exact List.forall_mem_cons.mpr ⟨hw.1, StmtsWf.mem hw.2⟩

structure BlockWf (b : BlockN) : Prop where
  params : ParamsWf b.params
  ctx : ExprOWf b.ctx
  body : StmtsWf b.body
  content : StmtsOWf b.content

def BlocksWf (bs : List (Bytes × BlockN)) : Prop := ∀ p ∈ bs, BlockWf p.2

structure TmplWf (t : Tmpl) : Prop where
  blocks : BlocksWf t.blocks
  root : StmtsWf t.root

def EnvWf (env : Env) : Prop := ∀ p ∈ env.store, ∀ t, p.2 = some t → TmplWf t

end JetVerif.Eval
