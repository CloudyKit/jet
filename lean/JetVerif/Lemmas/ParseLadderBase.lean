/-
  What the precedence ladder (Lemmas/ParseLadder.lean, Props/C04P.lean) is stated in: the states about to read
  a spelling (`Starts`), the items that end a sub-expression of each level (`stop2` … `stop7`), how the
  spellings of the stratified grammar (Model/ExprGrammar.lean) begin, the number of turns a chain takes, what it means
  that a production reads a spelling (`Reads`) with the chain argument for any `Level` (`Level.Chain`, `chain_one`,
  `chain_more`, `chain_finish`), and the end of `operand` at an item that starts no postfix (`operandReset_plain`).
-/
import JetVerif.Lemmas.ParseLevel
import JetVerif.Lemmas.TokCode
import JetVerif.Model.ExprGrammar

namespace JetVerif.Parse
open JetVerif.ExprGrammar

/- Proved by `simp`, not `rfl`: simp's discharger cannot hand back a side condition `t.pos = 0` it has
   rewritten with a `rfl` lemma. -/
@[simp] theorem it_typ (t : Tok) (v : Bytes) : (it t v).typ = t := by simp [it]
@[simp] theorem it_pos (t : Tok) (v : Bytes) : (it t v).pos = 0 := by simp [it]
@[simp] theorem it_val (t : Tok) (v : Bytes) : (it t v).val = v := by simp [it]

/-- from `s` the next non-space item is the head of `l`, and reading it leaves the rest of `l` in the channel and
    nothing pushed back (`starts_fresh`: nothing pushed back and `l` what the lexer still has; `starts_pushed`: the head of `l`
    pushed back) -/
def Starts (s b : PSt) (l : List Item) : Prop :=
  ∃ t ts, l = t :: ts ∧ nextNonSpace s = .ok t (mkS b ts t 0)

theorem Starts.next {s b : PSt} {t : Item} {ts : List Item} (h : Starts s b (t :: ts)) :
    nextNonSpace s = .ok t (mkS b ts t 0) := by
  obtain ⟨_, _, hl, h⟩ := h
  cases hl
  exact h

def GoodHead (l : List Item) : Prop := ∃ t ts, l = t :: ts ∧ t.pos = 0 ∧ t.typ ≠ Tok.space

theorem GoodHead.append {l : List Item} (h : GoodHead l) (m : List Item) : GoodHead (l ++ m) := by
  obtain ⟨t, ts, rfl, h0, hs⟩ := h
  exact ⟨t, ts ++ m, rfl, h0, hs⟩

theorem starts_fresh (b : PSt) (x : Item) {l : List Item} (h : GoodHead l) : Starts (mkS b l x 0) b l := by
  obtain ⟨t, ts, rfl, h0, hs⟩ := h
  exact ⟨t, ts, rfl, nextNonSpace_cons b t ts x h0 hs⟩

theorem starts_pushed (b : PSt) (t : Item) (ts : List Item) (hs : t.typ ≠ Tok.space) :
    Starts (mkS b ts t 1) b (t :: ts) := ⟨t, ts, rfl, nextNonSpace_pushed b ts t hs⟩

theorem GoodHead.starts_pushed {l : List Item} (h : GoodHead l) (b : PSt) {t : Item} {ts : List Item}
    (hl : l = t :: ts) : Starts (mkS b ts t 1) b l := by
  obtain ⟨t', ts', rfl, _, hs⟩ := h
  cases hl
  exact Parse.starts_pushed b t ts hs

theorem isMulT_iff (t : Tok) : isMulT t ↔ (t = Tok.mul ∨ t = Tok.div ∨ t = Tok.mod) := Tok.mul_range t
theorem isRelT_iff (t : Tok) : isRelT t ↔
    (t = Tok.great ∨ t = Tok.greatEquals ∨ t = Tok.less ∨ t = Tok.lessEquals) := Tok.rel_range t

/-- what may follow an operand: no postfix (`.field`, call, index) and no space; the grammar's items all sit at
    position 0, which is what `lineNumber` needs to answer 1 -/
def noPostfix (u : Item) : Prop :=
  u.pos = 0 ∧ u.typ ≠ Tok.space ∧ u.typ ≠ Tok.field ∧ u.typ ≠ Tok.leftParen ∧ u.typ ≠ Tok.leftBrackets
def stop2 (u : Item) : Prop := noPostfix u ∧ ¬ isMulT u.typ
def stop3 (u : Item) : Prop := stop2 u ∧ u.typ ≠ Tok.add ∧ u.typ ≠ Tok.minus
def stop4 (u : Item) : Prop := stop3 u ∧ ¬ isRelT u.typ
def stop5 (u : Item) : Prop := stop4 u ∧ u.typ ≠ Tok.equals ∧ u.typ ≠ Tok.notEquals
def stop6 (u : Item) : Prop := stop5 u ∧ u.typ ≠ Tok.and_ ∧ u.typ ≠ Tok.or_
def stop7 (u : Item) : Prop := stop6 u ∧ u.typ ≠ Tok.ternary

/-- the tokens that can go on an expression: a postfix, a binary operator, `?` (and space) -/
def continues : List Tok :=
  [.space, .field, .leftParen, .leftBrackets, .mul, .div, .mod, .add, .minus, .great, .greatEquals, .less,
   .lessEquals, .equals, .notEquals, .and_, .or_, .ternary]

theorem stop7_it (t : Tok) (v : Bytes) (h : t ∉ continues) : stop7 (it t v) := by
  simp only [continues, List.mem_cons, List.not_mem_nil, or_false, not_or] at h
  simp [stop7, stop6, stop5, stop4, stop3, stop2, noPostfix, isMulT_iff, isRelT_iff, h]

theorem noPostfix_mulop (op : MulOp) (v : Bytes) : noPostfix (it op.tok v) := by
  cases op <;> simp [noPostfix, MulOp.tok]
theorem stop2_addop (op : AddOp) (v : Bytes) : stop2 (it op.tok v) := by
  cases op <;> simp [stop2, noPostfix, AddOp.tok, isMulT_iff]
theorem stop3_relop (op : RelOp) (v : Bytes) : stop3 (it op.tok v) := by
  cases op <;> simp [stop3, stop2, noPostfix, RelOp.tok, isMulT_iff]
theorem stop4_eqop (op : EqOp) (v : Bytes) : stop4 (it op.tok v) := by
  cases op <;> simp [stop4, stop3, stop2, noPostfix, EqOp.tok, isMulT_iff, isRelT_iff]
theorem stop5_logop (op : LogOp) (v : Bytes) : stop5 (it op.tok v) := by
  cases op <;> simp [stop5, stop4, stop3, stop2, noPostfix, LogOp.tok, isMulT_iff, isRelT_iff]
theorem stop6_ternary (v : Bytes) : stop6 (it Tok.ternary v) := by
  simp [stop6, stop5, stop4, stop3, stop2, noPostfix, isMulT_iff, isRelT_iff]

theorem isMulT_mulop (op : MulOp) : isMulT op.tok := by cases op <;> simp [isMulT_iff, MulOp.tok]
theorem isAdd_addop (op : AddOp) : op.tok = Tok.add ∨ op.tok = Tok.minus := by cases op <;> simp [AddOp.tok]
theorem isRelT_relop (op : RelOp) : isRelT op.tok := by cases op <;> simp [isRelT_iff, RelOp.tok]
theorem isEq_eqop (op : EqOp) : op.tok = Tok.equals ∨ op.tok = Tok.notEquals := by cases op <;> simp [EqOp.tok]
theorem isLog_logop (op : LogOp) : op.tok = Tok.and_ ∨ op.tok = Tok.or_ := by cases op <;> simp [LogOp.tok]

def exprHead (t : Tok) : Prop :=
  t = Tok.identifier ∨ t = Tok.leftParen ∨ t = Tok.add ∨ t = Tok.minus ∨ t = Tok.not_

def ExprHead (l : List Item) : Prop := ∃ t ts, l = t :: ts ∧ t.pos = 0 ∧ exprHead t.typ

theorem ExprHead.append {l : List Item} (h : ExprHead l) (m : List Item) : ExprHead (l ++ m) := by
  obtain ⟨t, ts, rfl, h0, hs⟩ := h
  exact ⟨t, ts ++ m, rfl, h0, hs⟩

theorem ExprHead.good {l : List Item} (h : ExprHead l) : GoodHead l := by
  obtain ⟨t, ts, rfl, h0, hs⟩ := h
  exact ⟨t, ts, rfl, h0, by rcases hs with h | h | h | h | h <;> simp [h]⟩

theorem head0 (e : E0) : ∃ t ts, toks0 e = t :: ts ∧ t.pos = 0 ∧ (t.typ = Tok.identifier ∨ t.typ = Tok.leftParen) := by
  cases e with
  | atom _ => exact ⟨_, _, rfl, rfl, Or.inl rfl⟩
  | paren _ => exact ⟨_, _, rfl, rfl, Or.inr rfl⟩

theorem ehead0 (e : E0) : ExprHead (toks0 e) := by
  obtain ⟨t, ts, h, h0, ht⟩ := head0 e
  exact ⟨t, ts, h, h0, by rcases ht with ht | ht <;> simp [ht, exprHead]⟩
theorem ehead1 (e : E1) : ExprHead (toks1 e) := by
  cases e with
  | base e => exact ehead0 e
  | sign op v e => exact ⟨_, _, rfl, rfl, by cases op <;> simp [AddOp.tok, exprHead]⟩
theorem ehead2 : (c : E2) → ExprHead (toks2 c)
  | .one e => ehead1 e
  | .more l _ _ _ => (ehead2 l).append _
theorem ehead3 : (c : E3) → ExprHead (toks3 c)
  | .one e => ehead2 e
  | .more l _ _ _ => (ehead3 l).append _
theorem ehead4 : (c : E4) → ExprHead (toks4 c)
  | .one e => ehead3 e
  | .more l _ _ _ => (ehead4 l).append _
theorem ehead5 : (c : E5) → ExprHead (toks5 c)
  | .one e => ehead4 e
  | .more l _ _ _ => (ehead5 l).append _
theorem ehead5n (x : E5n) : ExprHead (toks5n x) := by
  cases x with
  | plain e => exact ehead5 e
  | not v e => exact ⟨_, _, rfl, rfl, by simp [exprHead]⟩
theorem ehead6 : (c : E6) → ExprHead (toks6 c)
  | .one e => ehead5n e
  | .more l _ _ _ => (ehead6 l).append _
theorem ehead7 (c : E7) : ExprHead (toks7 c) := by
  cases c with
  | one e => exact ehead6 e
  | tern c a b => exact (ehead6 c).append _

theorem ExprHead.starts {l : List Item} (h : ExprHead l) (b : PSt) (x : Item) (m : List Item) :
    Starts (mkS b (l ++ m) x 0) b (l ++ m) := starts_fresh b x (h.good.append m)

def it2 : E2 → Nat | .one _ => 0 | .more l _ _ _ => it2 l + 1
def it3 : E3 → Nat | .one _ => 0 | .more l _ _ _ => it3 l + 1
def it4 : E4 → Nat | .one _ => 0 | .more l _ _ _ => it4 l + 1
def it5 : E5 → Nat | .one _ => 0 | .more l _ _ _ => it5 l + 1
def it6 : E6 → Nat | .one _ => 0 | .more l _ _ _ => it6 l + 1

theorem it2_le : (c : E2) → it2 c + 1 ≤ sz2 c
  | .one _ => by simp [it2, sz2]
  | .more l _ _ _ => by have := it2_le l; simp [it2, sz2]; omega
theorem it3_le : (c : E3) → it3 c + 1 ≤ sz3 c
  | .one _ => by simp [it3, sz3]
  | .more l _ _ _ => by have := it3_le l; simp [it3, sz3]; omega
theorem it4_le : (c : E4) → it4 c + 1 ≤ sz4 c
  | .one _ => by simp [it4, sz4]
  | .more l _ _ _ => by have := it4_le l; simp [it4, sz4]; omega
theorem it5_le : (c : E5) → it5 c + 1 ≤ sz5 c
  | .one _ => by simp [it5, sz5]
  | .more l _ _ _ => by have := it5_le l; simp [it5, sz5]; omega
theorem it6_le : (c : E6) → it6 c + 1 ≤ sz6 c
  | .one _ => by simp [it6, sz6]
  | .more l _ _ _ => by have := it6_le l; simp [it6, sz6]; omega

/-- the production `f` reads the spelling `toks`, up to any item satisfying `stop`, as `tree`; ten units of fuel
    per unit of size are more than any level spends, not a tight bound -/
@[reducible] def Reads (f : Nat → String → PM (PExpr × Item)) (stop : Item → Prop) (toks : List Item) (tree : PExpr)
    (sz : Nat) : Prop :=
  ∀ (n : Nat) (ctx : String) (s b : PSt) (u : Item) (rest : List Item), n ≥ 10 * sz → stop u →
    Starts s b (toks ++ u :: rest) → f n ctx s = .ok (tree, u) (mkS b rest u 0)

namespace Level
variable {expr lower : Nat → String → PM (PExpr × Item)} {loop : Nat → String → PExpr → Item → PM (PExpr × Item)}
  {kind : BinKind} {isOp : Tok → Prop}

/-- reading a chain of `i` operators spelled `toks` is being in the loop with its left-folded tree `tree`, `i + 1`
    units of fuel further down (`Ladder2` … `Ladder6` of Lemmas/ParseLadder.lean unfold to it at the five levels) -/
@[reducible] def Chain (expr : Nat → String → PM (PExpr × Item)) (loop : Nat → String → PExpr → Item → PM (PExpr × Item))
    (stop : Item → Prop) (toks : List Item) (tree : PExpr) (i sz : Nat) : Prop :=
  ∀ (k : Nat) (ctx : String) (s b : PSt) (u : Item) (rest : List Item), k + i + 1 ≥ 10 * sz → stop u →
    Starts s b (toks ++ u :: rest) → expr (k + i + 1) ctx s = loop k ctx tree u (mkS b rest u 0)

variable (L : Level expr lower loop kind isOp) {stop : Item → Prop}
include L

theorem chain_one {toks : List Item} {tree : PExpr} {sz : Nat} (h : Reads lower stop toks tree sz) :
    Chain expr loop stop toks tree 0 (sz + 1) :=
  fun k ctx s b u rest hn hu hs => L.enter (h k ctx s b u rest (by omega) hu hs)

/-- left associativity: one more operator and operand behind a chain is one more turn of the loop -/
theorem chain_more {toksL toksR : List Item} {treeL treeR : PExpr} {i szL szR : Nat} {op : Tok} {v : Bytes}
    (hl : Chain expr loop stop toksL treeL i szL) (hi : i + 1 ≤ szL) (hr : Reads lower stop toksR treeR szR)
    (hh : ExprHead toksR) (hop : isOp op) (hso : stop (it op v)) :
    Chain expr loop stop (toksL ++ it op v :: toksR) (.binary kind 1 op (some treeL) treeR) (i + 1) (szL + szR + 1) := by
  intro k ctx s b u rest hn hu hs
  rw [show k + (i + 1) + 1 = (k + 1) + i + 1 by omega,
    hl (k + 1) ctx s b (it op v) (toksR ++ u :: rest) (by omega) hso (by simpa using hs)]
  exact L.step (op := it op v) hop (hr k ctx _ b u rest (by omega) hu (hh.starts b _ _))

/-- the loop is left at the first item that is no operator of the level -/
theorem chain_finish {stop' : Item → Prop} {toks : List Item} {tree : PExpr} {i sz : Nat}
    (h : Chain expr loop stop toks tree i sz) (hi : i + 1 ≤ sz) (hst : ∀ u, stop' u → stop u ∧ ¬ isOp u.typ) :
    Reads expr stop' toks tree sz :=
  fun n ctx s b u rest hn hu hs =>
    L.finish (i := i) (fun k _ => h k ctx s b u rest (by omega) (hst u hu).1 hs) (by omega) (hst u hu).2

end Level

variable (cfg : Cfg)

/-- `operand` from the label RESET on, when the next item starts no postfix -/
theorem operandReset_plain (n : Nat) (b : PSt) (x u : Item) (rest : List Item) (node : PExpr)
    (hu : noPostfix u) :
    operandReset cfg (n + 1) node (mkS b (u :: rest) x 0) = .ok node (mkS b rest u 1) := by
  obtain ⟨h0, hsp, hf, hlp, hlb⟩ := hu
  rw [operandReset]
  simp [bind_apply, h0, hf]
  by_cases hp : postfixable node.nt = true
  · simp [hp, bind_apply, hsp, hlp, hlb]
  · simp [hp]

end JetVerif.Parse
