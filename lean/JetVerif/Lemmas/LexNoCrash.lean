/-
  The lexer model never crashes and always ends.  From a state satisfying the cursor invariant `B` (and, for
  the states that rely on it, the fact established by the state function that selected them, `Entry` - "the
  left delimiter starts here", "one space has been read", ...) every state function ends in `ok`,
  re-establishes the invariant and the entry fact of the state it selects, and has moved `start` by `delta`
  at least (`Steps`); every loop ends within the fuel the model gives it.  `rank` orders the hand-overs that
  consume nothing, so the potential `4·(len − start) + rank` drops at every step, and a run on fuel above it
  finishes (`runLoop_done`, `lexRun_done`).

  A proof states the bounds the Go code relies on, names the invariant of every state the function goes through
  (`h.move p ..`, `h1.emit t ..`, `h2.next`, ...: Lemmas/LexSafe.lean), runs the code with the head steps
  (`Ok.bind_get`, `h1.bind_emit`, `h2.bind_next`, ...) and leaves through one of the exits `Steps.to`, `Steps.moved`,
  `Steps.stay`, `Steps.stop`, `Steps.errorf`, `Steps.emit_inside`; what an `ignore` dropped is computed with `seg_append`
  and `seg_of_prefix` (Lemmas/LexBytes.lean).  The lemma of a loop speaks of the state `s0` its state function
  was entered in, so every way out of the loop is a way out of the state function.
-/
import JetVerif.Lemmas.LexSafe
import JetVerif.Lemmas.LexTokens

namespace JetVerif.Lex
open JetVerif.Utf8

variable {inp : Bytes} {d : Delims} {lo : Int}

/-! ### the facts a state relies on when it is entered -/

def rest (s : St) : Bytes := s.input.drop s.pos.toNat

/-- what lex.go relies on, without saying so, when it enters a state: the delimiter and comment states where
    their string starts, `space` only where `atRightDelim` has just said no (otherwise its `backup` would send
    an empty space item and come back for ever), `number` only on a sign, a dot or a digit (`scanNumber` then
    consumes at least that rune), the quote states behind the opening quote, `identifier` on a word that does
    not begin with a dot (what it sends is then no field item) - either behind a `_` already consumed
    (`start < pos`) or, after the `backup` on an alphanumeric rune, with that rune still ahead -, `field` one
    byte behind a dot -/
def Entry (st : StateId) (s : St) : Prop :=
  match st with
  | .leftDelim => hasPrefix (rest s) s.d.left = true
  | .comment => hasPrefix (rest s) s.d.lcomment = true ∧ s.start = s.pos
  | .rightDelim => (hasPrefix (rest s) s.d.trimRight = true ∨ hasPrefix (rest s) s.d.right = true) ∧ AllSpace (pending s)
  | .insideAction => s.start = s.pos
  | .space => s.start + 1 = s.pos ∧ hasPrefix (s.input.drop s.start.toNat) s.d.trimRight = false ∧ AllSpace (pending s)
  | .identifier =>
    (∃ b tl, s.input.drop s.start.toNat = b :: tl ∧ b ≠ 46) ∧
    (s.start < s.pos ∨ (∃ c, (runeAt s).1 = some c ∧ isAlphaNumeric (some c) = true))
  | .field => s.start + 1 = s.pos ∧ ∃ tl, s.input.drop s.start.toNat = 46 :: tl
  | .char => s.start < s.pos
  | .quote => s.start < s.pos
  | .rawQuote => s.start < s.pos
  | .number => ∃ c, (runeAt s).1 = some c ∧ (c = 43 ∨ c = 45 ∨ c = 46 ∨ (48 ≤ c ∧ c ≤ 57))
  | .text => True

def Goes (inp : Bytes) (d : Delims) (lo : Int) (r : Option StateId) (s' : St) : Prop :=
  B inp d lo s' ∧ (∀ st, r = some st → Entry st s')

/-- how far a state function moves `start` at least, by the state it was and the state it selects:
    0 for the hand-overs that consume nothing (`text` finding a delimiter at once, `insideAction`
    dispatching on the first rune, `space` seeing the trim marker, any error), 1 otherwise.  `insideAction`
    never selects `text`, `leftDelim` or `comment`; their rows say 1 so that `rank_delta` holds of every pair of
    states and needs no list of the transitions that exist (`text` outranks `insideAction`) -/
def delta : StateId → Option StateId → Int
  | _, none => 0
  | .text, some .leftDelim => 0
  | .text, some .comment => 0
  | .insideAction, some .insideAction => 1
  | .insideAction, some .text => 1
  | .insideAction, some .leftDelim => 1
  | .insideAction, some .comment => 1
  | .insideAction, some _ => 0
  | .space, some .rightDelim => 0
  | _, some _ => 1

/-- what a state function run from `s` in state `st` leaves behind: `Goes` with the floor `delta` above where
    `start` was, which is how "`start` has moved by `delta` at least" is said -/
def Steps (inp : Bytes) (d : Delims) (st : StateId) (s : St) (r : Option StateId) (s' : St) : Prop :=
  Goes inp d (s.start + delta st r) r s'

theorem delta_le_one (st : StateId) (r : Option StateId) : delta st r ≤ 1 := by
  unfold delta
  split <;> decide

theorem delta_none (st : StateId) : delta st none = 0 := by cases st <;> rfl

theorem errorf_goes (msg : String) (s : St) (h : B inp d lo s) : Ok (errorf msg s) (Goes inp d lo) :=
  ⟨h.err msg, nofun⟩

/-! ### how a state function ends

    `s` is the state the function was entered in, `s'` the one it leaves; the invariant may have been established
    with any floor. -/

section
variable {st : StateId} {s s' : St} {lo' : Int}

theorem Steps.to (st' : StateId) (hb : B inp d lo' s') (he : Entry st' s') (hd : s.start + delta st (some st') ≤ s'.start) :
    Steps inp d st s (some st') s' :=
  ⟨hb.relo _ hd, by rintro _ ⟨⟩; exact he⟩

theorem Steps.moved (st' : StateId) (hb : B inp d lo' s') (he : Entry st' s') (hd : s.start + 1 ≤ s'.start) :
    Steps inp d st s (some st') s' :=
  Steps.to st' hb he (Int.le_trans (Int.add_le_add_left (delta_le_one st _) _) hd)

/-- a hand-over that consumes nothing -/
theorem Steps.stay (st' : StateId) (hb : B inp d lo' s') (he : Entry st' s') (h0 : delta st (some st') = 0)
    (hd : s.start ≤ s'.start) : Steps inp d st s (some st') s' :=
  Steps.to st' hb he (by rw [h0, Int.add_zero]; exact hd)

/-- the machine stops: nothing is asked of `start` -/
theorem Steps.stop (hb : B inp d lo' s') (hd : s.start ≤ s'.start) : Steps inp d st s none s' :=
  ⟨hb.relo _ (by rw [delta_none, Int.add_zero]; exact hd), nofun⟩

theorem Steps.errorf (msg : String) (hb : B inp d lo' s') (hd : s.start ≤ s'.start) :
    Ok (errorf msg s') (Steps inp d st s) :=
  Steps.stop (hb.err msg) hd

/-- `emit` as the last step of a state function that goes on inside the action -/
theorem Steps.emit_inside (t : Tok) (hb : B inp d lo' s') (hf : t = Tok.field → ∃ c cs, pending s' = 46 :: c :: cs)
    (hd : s.start + 1 ≤ s'.pos) :
    Ok ((emit t >>= fun _ => pure (some StateId.insideAction)) s') (Steps inp d st s) := by
  rw [hb.bind_emit]
  exact Steps.moved .insideAction (hb.emit t hf) rfl hd

end

theorem lexLeftDelim_ok (s : St) (h : B inp d lo s) (he : Entry .leftDelim s) :
    Ok (lexLeftDelim s) (Steps inp d .leftDelim s) := by
  obtain rfl := h.input
  obtain rfl := h.delims
  have hfit := prefix_fits h.pos0 h.posLen (hasPrefix_iff.mp he)
  have hl := List.length_pos_iff.mpr h.wfd.left
  have hsp := h.startPos
  have h1 := h.move (s.pos + s.d.left.length) (by omega) hfit
  have h2 := h1.emit .leftDelim nofun
  unfold lexLeftDelim
  rw [Ok.bind_modify, h1.bind_emit, Ok.bind_get, h2.bind_rest]
  refine Ok.ite (fun hm => ?_) fun _ => ?_
  · have hm := hasPrefix_iff.mp hm
    have hfit2 := prefix_fits h2.pos0 hfit hm
    have h3 := h2.move (s.pos + s.d.left.length + 2) (by cursor_arith) hfit2
    rw [Ok.bind_modify, Ok.bind_ignore, Ok.bind_modify, Ok.pure_iff]
    exact Steps.moved .insideAction ((h3.ignore .markLeft (seg_of_prefix hm)).scratch _ _ 0) rfl (by cursor_arith)
  · rw [Ok.bind_modify, Ok.pure_iff]
    exact Steps.moved .insideAction (h2.scratch _ _ 0) rfl (by cursor_arith)

theorem lexComment_ok (s : St) (h : B inp d lo s) (he : Entry .comment s) :
    Ok (lexComment s) (Steps inp d .comment s) := by
  obtain rfl := h.input
  obtain rfl := h.delims
  obtain ⟨hpre, hsp⟩ := he
  have hpre := hasPrefix_iff.mp hpre
  have hlc := List.length_pos_iff.mpr h.wfd.lcomment
  have h0 := h.pos0
  have h1 := h.move (s.pos + s.d.lcomment.length) (by omega) (prefix_fits h0 h.posLen hpre)
  unfold lexComment
  rw [Ok.bind_modify, Ok.bind_get, h1.bind_rest]
  cases hi : indexOf _ s.d.rcomment with
  | none => exact Steps.errorf _ h1 (Int.le_refl _)
  | some i =>
    have hi := indexOf_at h1.pos0 h1.posLen hi
    have h2 := h1.move (s.pos + s.d.lcomment.length + i + s.d.rcomment.length) (by cursor_arith) hi.2
    rw [Ok.bind_modify, Ok.bind_ignore, Ok.pure_iff]
    -- the dropped range is the opener, what precedes the first closer, and the closer
    refine Steps.moved .text (h2.ignore .comment
        ⟨seg s.input (s.pos + s.d.lcomment.length) (s.pos + s.d.lcomment.length + i), ?_⟩) trivial (by cursor_arith)
    dsimp only
    rw [hsp, seg_append _ h0 (b := s.pos + s.d.lcomment.length + i) (by omega) (by omega),
      seg_append _ h0 (b := s.pos + s.d.lcomment.length) (by omega) (by omega), seg_of_prefix hpre, seg_of_prefix hi.1]

theorem lexRightDelim_ok (s : St) (h : B inp d lo s) (he : Entry .rightDelim s) :
    Ok (lexRightDelim s) (Steps inp d .rightDelim s) := by
  obtain rfl := h.input
  obtain rfl := h.delims
  obtain ⟨he, hpend⟩ := he
  have hr := List.length_pos_iff.mpr h.wfd.right
  have h0 := h.start0
  have hsp := h.startPos
  have hpl := h.posLen
  unfold lexRightDelim
  rw [Ok.bind_get, h.bind_rest]
  by_cases ht : hasPrefix (List.drop s.pos.toNat s.input) s.d.trimRight = true
  · have hpt := hasPrefix_iff.mp ht
    rw [h.wfd.trimRight] at hpt
    have hfit := prefix_fits h.pos0 hpl hpt
    have hm : seg s.input s.pos (s.pos + 2) = rightTrimMarker := seg_of_prefix ((List.prefix_append _ _).trans hpt)
    have hfit : s.pos + 2 + s.d.right.length ≤ s.input.length := by simp [rightTrimMarker] at hfit; omega
    have hle := leftTrimLength_le (List.drop (s.pos + 2 + s.d.right.length).toNat s.input)
    rw [List.length_drop] at hle
    -- whatever space item was pending, then the marker
    have h1 := (h.move (s.pos + 2) (by omega) (by omega)).ignore .markRight
      ⟨_, hpend, by dsimp only; rw [seg_append _ h0 hsp (by omega), hm]; rfl⟩
    have h2 := h1.move (s.pos + 2 + s.d.right.length) (by cursor_arith) hfit
    have h3 := h2.emit .rightDelim nofun
    -- the run of spaces, tabs, CRs and LFs after the delimiter
    have h4 := (h3.move (s.pos + 2 + s.d.right.length + leftTrimLength (List.drop (s.pos + 2 + s.d.right.length).toNat s.input))
      (by cursor_arith) (by omega)).ignore .trimRight (by
        show AllSpace (seg s.input _ _)
        rw [seg_nat, take_leftTrimLength]
        exact allSpace_takeWhile _)
    simp only [ht, if_true, Ok.bind_modify, Ok.bind_ignore, h2.bind_emit, Ok.bind_get, h3.bind_rest, Ok.pure_iff]
    exact Steps.moved .text h4 trivial (by cursor_arith)
  · have hfit := prefix_fits h.pos0 hpl (hasPrefix_iff.mp (he.resolve_left ht))
    have h1 := h.move (s.pos + s.d.right.length) (by omega) hfit
    simp only [ht, Bool.false_eq_true, if_false, Ok.bind_modify, h1.bind_emit, Ok.pure_iff]
    exact Steps.moved .text (h1.emit .rightDelim nofun) trivial (by cursor_arith)

/-! ### the quote states: loops that only read on

    `s0` is the state the state function was entered in; the floor of the invariant is its `start`. -/

theorem rawQuoteLoop_ok (st : StateId) (s0 : St) (fuel : Nat) : ∀ (s : St), B inp d s0.start s → s0.start + 1 ≤ s.pos →
    inp.length - s.pos < fuel → Ok (rawQuoteLoop fuel s) (Steps inp d st s0) := by
  induction fuel with
  | zero => intro s h _ hr; have := h.posLen; omega
  | succ fuel ih =>
    intro s h hp hr
    have hw := h.rune
    have h1 := h.next.toB
    unfold rawQuoteLoop
    rw [h.bind_next]
    cases hc : (runeAt s).1 with
    | none => exact Steps.errorf _ h1 h1.low
    | some c =>
      have := hw.2.2 (hc ▸ rfl)
      have hp1 : s0.start + 1 ≤ s.pos + (runeAt s).2 := by omega
      dsimp only
      split
      · exact Steps.emit_inside _ h1 nofun hp1
      · exact ih _ h1 hp1 (show (inp.length : Int) - (s.pos + (runeAt s).2) < fuel by omega)

theorem quotedLoop_ok (q : Nat) (t : Tok) (ht : t ≠ Tok.field) (msg : String) (st : StateId) (s0 : St) (fuel : Nat) :
    ∀ (s : St), B inp d s0.start s → s0.start + 1 ≤ s.pos → inp.length - s.pos < fuel →
    Ok (quotedLoop q t msg fuel s) (Steps inp d st s0) := by
  induction fuel with
  | zero => intro s h _ hr; have := h.posLen; omega
  | succ fuel ih =>
    intro s h hp hr
    have hw := h.rune
    have h1 := h.next.toB
    unfold quotedLoop
    rw [h.bind_next]
    cases hc : (runeAt s).1 with
    | none => exact Steps.errorf _ h1 h1.low
    | some c =>
      have := hw.2.2 (hc ▸ rfl)
      have hp1 : s0.start + 1 ≤ s.pos + (runeAt s).2 := by omega
      have hf1 : (inp.length : Int) - (s.pos + (runeAt s).2) < fuel := by omega
      refine Ok.ite (fun _ => ?_) fun _ => ?_
      · have hv := h1.rune
        have h2 := h1.next.toB
        rw [h1.bind_next]
        generalize (runeAt { s with width := (runeAt s).2, pos := s.pos + (runeAt s).2 }) = r2 at hv h2 ⊢
        cases hc2 : r2.1 with
        | none => exact Steps.errorf _ h2 h2.low
        | some c2 =>
          dsimp only
          split
          · exact Steps.errorf _ h2 h2.low
          · exact ih _ h2 (Int.le_trans hp1 (Int.le_add_of_nonneg_right hv.1))
              (show (inp.length : Int) - (s.pos + (runeAt s).2 + r2.2) < fuel by have := hv.1; omega)
      · refine Ok.ite (fun _ => ?_) fun _ => ?_
        · exact Steps.errorf _ h1 h1.low
        · split
          · exact Steps.emit_inside _ h1 (fun e => (ht e).elim) hp1
          · exact ih _ h1 hp1 hf1

theorem lexChar_ok (s : St) (h : B inp d lo s) (he : Entry .char s) : Ok (lexChar s) (Steps inp d .char s) :=
  quotedLoop_ok _ _ (by decide) _ .char s _ s h.here he h.fuel

theorem lexQuote_ok (s : St) (h : B inp d lo s) (he : Entry .quote s) : Ok (lexQuote s) (Steps inp d .quote s) :=
  quotedLoop_ok _ _ (by decide) _ .quote s _ s h.here he h.fuel

theorem lexRawQuote_ok (s : St) (h : B inp d lo s) (he : Entry .rawQuote s) : Ok (lexRawQuote s) (Steps inp d .rawQuote s) :=
  rawQuoteLoop_ok .rawQuote s _ s h.here he h.fuel

/-! ### numbers and fields -/

/-- `m` keeps the invariant, never moves the cursor back, and consumes something if the rune at the cursor
    satisfies `V` -/
def Eats {α} (V : Option Nat → Prop) (m : M α) : Prop :=
  ∀ inp d lo (s : St), B inp d lo s →
    Ok (m s) (fun _ s' => B inp d lo s' ∧ s.pos ≤ s'.pos ∧ (V (runeAt s).1 → s.pos + 1 ≤ s'.pos))

abbrev Fwd {α} (m : M α) : Prop := Eats (fun _ => False) m

section
variable {α β : Type} {V W : Option Nat → Prop}

theorem Eats.mono {m : M α} (h : Eats V m) (hv : ∀ r, W r → V r) : Eats W m :=
  fun _ _ _ s hs => (h _ _ _ s hs).mono fun _ _ h' => ⟨h'.1, h'.2.1, fun hw => h'.2.2 (hv _ hw)⟩

theorem Eats.fwd {m : M α} (h : Eats V m) : Fwd m := h.mono fun _ => False.elim

theorem Fwd.pure (a : α) : Fwd (pure a : M α) := fun _ _ _ _ h => ⟨h, Int.le_refl _, False.elim⟩

/-- what the first part leaves at the cursor the second part still finds there -/
theorem Eats.bind {m : M α} {f : α → M β} (hm : Eats V m) (hf : ∀ a, Eats W (f a)) : Eats (fun r => V r ∨ W r) (m >>= f) :=
  fun _ _ _ s h => (hm _ _ _ s h).bind fun a s1 h1 => (hf a _ _ _ s1 h1.1).mono fun _ s2 h2 => by
    refine ⟨h2.1, Int.le_trans h1.2.1 h2.2.1, fun hvw => ?_⟩
    rcases hvw with hv | hw
    · have := h1.2.2 hv; omega
    · by_cases hp : s1.pos = s.pos
      · have := h2.2.2 (runeAt_congr s1 s (h1.1.input.trans h.input.symm) hp ▸ hw); omega
      · omega

theorem Fwd.bind {m : M α} {f : α → M β} (hm : Fwd m) (hf : ∀ a, Fwd (f a)) : Fwd (m >>= f) :=
  (Eats.bind hm hf).fwd

theorem Eats.ite {c : Prop} [Decidable c] {a b : M α} (ha : Eats V a) (hb : Eats V b) : Eats V (if c then a else b) := by
  split <;> assumption

end

theorem eats_accept (valid : List Nat) : Eats (fun r => runeIn valid r = true) (accept valid) := by
  intro inp d lo s h
  have hw := h.rune
  unfold accept
  rw [h.bind_next]
  split
  · rename_i hin
    have := hw.2.2 (isSome_of_test rfl hin)
    exact ⟨h.next.toB, by cursor_arith, fun _ => by cursor_arith⟩
  · rename_i hin
    rw [Ok.bind_backup, Ok.pure_iff]
    exact ⟨h.next.backup, by cursor_arith, fun hc => absurd hc hin⟩

theorem acceptRunLoop_ok (valid : List Nat) (fuel : Nat) : ∀ (s : St), B inp d lo s → inp.length - s.pos < fuel →
    Ok (acceptRunLoop valid fuel s) (fun _ s' => B inp d lo s' ∧ s.pos ≤ s'.pos ∧
      (runeIn valid (runeAt s).1 = true → s.pos + 1 ≤ s'.pos)) := by
  induction fuel with
  | zero => intro s h hr; have := h.posLen; omega
  | succ fuel ih =>
    intro s h hr
    have hw := h.rune
    unfold acceptRunLoop
    rw [h.bind_next]
    split
    · rename_i hin
      have := hw.2.2 (isSome_of_test rfl hin)
      exact (ih _ h.next.toB (by cursor_arith)).mono fun _ s' h' =>
        ⟨h'.1, by have := h'.2.1; cursor_arith, fun _ => by have := h'.2.1; cursor_arith⟩
    · rename_i hin
      exact ⟨h.next.backup, by cursor_arith, fun hc => absurd hc hin⟩

theorem eats_acceptRun (valid : List Nat) : Eats (fun r => runeIn valid r = true) (acceptRun valid) :=
  fun _ _ _ s h => acceptRunLoop_ok valid _ s h h.fuel

theorem fwd_peek : Fwd peek := fun _ _ _ s h => by
  rw [peek_eq s h.pos0 (h.input ▸ h.posLen)]
  exact ⟨h.scratch _ _ _, Int.le_refl _, False.elim⟩

theorem fwd_next : Fwd next := fun _ _ _ s h => by
  have := h.rune.1
  rw [next_eq s h.pos0 (h.input ▸ h.posLen)]
  exact ⟨h.next.toB, by cursor_arith, False.elim⟩

theorem runeIn_digit {c : Nat} (h0 : 48 ≤ c) (h1 : c ≤ 57) : runeIn digits10 (some c) = true := by
  simp only [runeIn, digits10, List.contains_eq_mem, List.mem_cons, List.not_mem_nil, or_false, decide_eq_true_eq]
  omega

theorem runeIn_digits (hex : Bool) {r : Option Nat} (h : runeIn digits10 r = true) :
    runeIn (if hex = true then digits16 else digits10) r = true := by
  cases hex
  · exact h
  · cases r with
    | none => cases h
    | some c => simp only [runeIn, digits16, if_true, List.contains_eq_mem, List.mem_append, decide_eq_true_eq] at h ⊢; exact .inl h

/-- `scanNumber` does not crash, never moves backwards, and entered on a sign, a dot or a digit it
    consumes at least that rune: each of these is taken by the first `accept` it comes to that admits it -/
theorem eats_scanNumber : Eats (fun r => ∃ c, r = some c ∧ (c = 43 ∨ c = 45 ∨ c = 46 ∨ (48 ≤ c ∧ c ≤ 57))) scanNumber := by
  have t3 := Fwd.bind (eats_accept [105]).fwd fun _ => Fwd.bind fwd_peek fun p =>
    Eats.ite (c := isAlphaNumeric p = true) (Fwd.bind fwd_next fun _ => Fwd.pure false) (Fwd.pure true)
  have t2 := Fwd.bind (eats_accept [101, 69]).fwd fun e =>
    Eats.ite (c := e = true) (Fwd.bind (eats_accept [43, 45]).fwd fun _ => Fwd.bind (eats_acceptRun digits10).fwd fun _ => t3) t3
  unfold scanNumber
  refine ((eats_accept [43, 45]).bind fun _ => (eats_accept [48]).bind fun z =>
    (Eats.ite (c := z = true) (eats_accept [120, 88]).fwd (Fwd.pure false)).bind fun hex =>
    ((eats_acceptRun _).mono fun _ => runeIn_digits hex).bind fun _ => (eats_accept [46]).bind fun dot =>
    Eats.ite (c := dot = true) (Fwd.bind (eats_acceptRun _).fwd fun _ => t2) t2).mono ?_
  rintro _ ⟨c, rfl, rfl | rfl | rfl | ⟨h0, h1⟩⟩
  · exact .inl rfl
  · exact .inl rfl
  · exact .inr (.inr (.inr (.inr (.inl rfl))))
  · exact .inr (.inr (.inr (.inl (runeIn_digit h0 h1))))

theorem lexNumber_ok (s : St) (h : B inp d lo s) (he : Entry .number s) : Ok (lexNumber s) (Steps inp d .number s) := by
  unfold lexNumber
  refine Ok.bind (eats_scanNumber _ _ _ s h.here) ?_
  rintro okNum s1 ⟨h1, -, hadv⟩
  split
  · exact Steps.errorf _ h1 h1.low
  · exact Steps.emit_inside _ h1 nofun (by have := hadv he; have := h.startPos; omega)

theorem lexFieldLoop_ok (fuel : Nat) : ∀ (s : St), B inp d lo s → inp.length - s.pos < fuel →
    Ok (lexFieldLoop fuel s) (fun _ s' => B inp d lo s' ∧ s'.start = s.start ∧ s.pos ≤ s'.pos) := by
  induction fuel with
  | zero => intro s h hr; have := h.posLen; omega
  | succ fuel ih =>
    intro s h hr
    have hw := h.rune
    unfold lexFieldLoop
    rw [h.bind_next]
    refine Ok.ite (fun hal => ?_) fun _ => ?_
    · have := hw.2.2 (isSome_of_test rfl hal)
      exact (ih _ h.next.toB (by cursor_arith)).mono fun _ s' h' => ⟨h'.1, h'.2.1, by have := h'.2.2; cursor_arith⟩
    · exact ⟨h.next.backup, rfl, by cursor_arith⟩

theorem pending_field (s : St) (h : B inp d lo s) (tl : Bytes) (hdot : s.input.drop s.start.toNat = 46 :: tl)
    (hlen : s.start + 2 ≤ s.pos) : ∃ c cs, pending s = 46 :: c :: cs := by
  have hl := congrArg List.length hdot
  rw [List.length_drop, h.input] at hl
  have := h.posLen
  have := h.start0
  cases tl with
  | nil => simp at hl; omega
  | cons c cs =>
    refine ⟨c, cs.take (s.pos - s.start - 2).toNat, ?_⟩
    show seg _ _ _ = _
    rw [seg_eq_cons hdot (by omega), show (s.pos - s.start - 1).toNat = (s.pos - s.start - 2).toNat + 1 by omega]; rfl

theorem lexField_ok (s : St) (h : B inp d lo s) (he : Entry .field s) : Ok (lexField s) (Steps inp d .field s) := by
  obtain ⟨hsp, tl, hdot⟩ := he
  have h1 := h.scratch (runeAt s).2 s.lastType s.parenDepth
  unfold lexField
  rw [h.bind_atTerminator]
  split
  · exact Steps.emit_inside _ h1 nofun (by cursor_arith)
  · rename_i ht
    rw [Ok.bind_get]
    refine Ok.bind (lexFieldLoop_ok _ _ h1 h1.fuel) ?_
    rintro _ s3 ⟨h3, hst3, hp3⟩
    have hi3 : s3.input = s.input := h3.input.trans h.input.symm
    have hst : s3.start = s.start := hst3
    have h4 := h3.scratch (runeAt s3).2 s3.lastType s3.parenDepth
    rw [h3.bind_atTerminator]
    split
    · exact Steps.errorf _ h4 (Int.le_of_eq hst.symm)
    · rename_i ht2
      -- the loop moved: otherwise the second answer would be the first
      have hmoved : s.pos < s3.pos := by
        refine Decidable.byContradiction fun hn => ?_
        have hpe : s3.pos = s.pos := by have : s.pos ≤ s3.pos := hp3; omega
        have : termVal s3 = termVal s := by
          unfold termVal
          rw [runeAt_congr s3 s hi3 hpe, h3.delims, h.delims]
        rw [this] at ht2
        cases hv : termVal s <;> simp [hv] at ht ht2
      exact Steps.emit_inside _ h4 (fun _ => pending_field _ h4 tl (by show s3.input.drop s3.start.toNat = _; rw [hi3, hst]; exact hdot)
          (by show s3.start + 2 ≤ s3.pos; omega)) (by show s.start + 1 ≤ s3.pos; omega)

/-! ### spaces -/

theorem pending_snoc (s : St) (h : B inp d lo s) (b : UInt8) (tl : Bytes) (w : Int)
    (hd : s.input.drop s.pos.toNat = b :: tl) :
    pending { s with width := w, pos := s.pos + 1 } = pending s ++ [b] := by
  show seg s.input s.start (s.pos + 1) = seg s.input s.start s.pos ++ [b]
  rw [seg_append _ h.start0 h.startPos (by omega), seg_cons hd]

theorem runeAt_width_frame (s : St) (w : Int) : runeAt { s with width := w } = runeAt s := rfl

/-- a space rune is one space byte -/
theorem runeAt_space (s : St) (h0 : 0 ≤ s.pos) (h : isSpace (runeAt s).1 = true) :
    (runeAt s).2 = 1 ∧ ∃ b tl, s.input.drop s.pos.toNat = b :: tl ∧ isSpaceByte b = true := by
  obtain ⟨c, hc⟩ := Option.isSome_iff_exists.mp (isSome_of_test rfl h)
  rw [hc] at h
  obtain ⟨hw, b, tl, hdrop, hb⟩ := runeAt_ascii s h0 hc (isSpace_ascii h)
  exact ⟨hw, b, tl, hdrop, by rw [isSpaceByte_toNat, hb]; exact h⟩

theorem lexSpaceLoop_ok (fuel : Nat) : ∀ (s : St) (n : Nat), B inp d lo s → s.start < s.pos → AllSpace (pending s) →
    inp.length - s.pos < fuel →
    Ok (lexSpaceLoop fuel n s) (fun _ s' => B inp d lo s' ∧ s'.start < s'.pos ∧ s'.width = (runeAt s').2 ∧
      s'.start = s.start ∧ s.pos ≤ s'.pos ∧ AllSpace (pending s')) := by
  induction fuel with
  | zero => intro s _ h _ _ hr; have := h.posLen; omega
  | succ fuel ih =>
    intro s n h hlt hps hr
    have h1 := h.scratch (runeAt s).2 s.lastType s.parenDepth
    unfold lexSpaceLoop
    rw [h.bind_peek]
    refine Ok.ite (fun hsp => ?_) fun _ => ?_
    · obtain ⟨hw, b, tl, hdrop, hb⟩ := runeAt_space s h.pos0 hsp
      have h2 := h.next.toB
      rw [h1.bind_next]
      show Ok (lexSpaceLoop fuel (n + 1) { s with width := (runeAt s).2, pos := s.pos + (runeAt s).2 }) _
      rw [hw] at h2 ⊢
      refine (ih _ (n + 1) h2 (by cursor_arith) ?_ (by cursor_arith)).mono fun _ s' h' => ?_
      · rw [pending_snoc s h b tl _ hdrop]
        exact hps.snoc b hb
      · exact ⟨h'.1, h'.2.1, h'.2.2.1, h'.2.2.2.1, by have := h'.2.2.2.2.1; cursor_arith, h'.2.2.2.2.2⟩
    · exact ⟨h1, hlt, rfl, rfl, Int.le_refl _, hps⟩

theorem lexSpace_ok (s : St) (h : B inp d lo s) (he : Entry .space s) : Ok (lexSpace s) (Steps inp d .space s) := by
  obtain ⟨hsp, hnp, hpend⟩ := he
  unfold lexSpace
  rw [Ok.bind_get]
  refine Ok.bind (lexSpaceLoop_ok _ s 0 h (by omega) hpend h.fuel) ?_
  rintro numSpaces s1 ⟨h1, hlt1, hw1, hst1, hpm1, hps1⟩
  have hi : s1.input = s.input := h1.input.trans h.input.symm
  have hd : s1.d = s.d := h1.delims.trans h.delims.symm
  have h0 := h1.start0
  have hpl := h1.posLen
  rw [Ok.bind_get, Ok.bind_restAt (by omega) (by rw [h1.input]; omega)]
  by_cases hp : hasPrefix (List.drop (s1.pos - 1).toNat s1.input) s1.d.trimRight = true
  · -- the loop moved: at the entry position the caller had found no trim marker
    have hmoved : s.pos + 1 ≤ s1.pos := by
      refine Decidable.byContradiction fun hm => ?_
      rw [show s1.pos - 1 = s.start by omega, hi, hd, hnp] at hp
      exact Bool.noConfusion hp
    -- the byte under the cursor is the marker's `-`: the rune the loop peeked has width 1
    obtain ⟨t, ht⟩ := hasPrefix_iff.mp hp
    rw [h1.delims, h1.wfd.trimRight] at ht
    have htl : s1.input.drop s1.pos.toNat = 45 :: (d.right ++ t) := by
      rw [show s1.pos.toNat = (s1.pos - 1).toNat + 1 by omega, ← List.drop_drop, ← ht]; rfl
    have hwidth : s1.width = 1 := by
      rw [hw1, runeAt, if_neg (by have := congrArg List.length htl; simp at this; omega), htl]; rfl
    have h2 := h1.move (s1.pos - s1.width) (by omega) (by omega)
    rw [if_pos hp, Ok.bind_assoc, Ok.bind_backup, Ok.bind_pure]
    split
    · refine Steps.stay .rightDelim h2 ⟨.inl (hwidth ▸ hp), ?_⟩ rfl (Int.le_of_eq hst1.symm)
      show AllSpace (seg s1.input s1.start (s1.pos - s1.width))
      rw [seg_take _ (b := s1.pos) (by omega)]
      exact hps1.take _
    · exact Steps.emit_inside _ h2 nofun (by cursor_arith)
  · rw [if_neg hp, Ok.bind_pure, if_neg Bool.false_ne_true]
    exact Steps.emit_inside _ h1 nofun (by omega)

/-! ### identifiers -/

/-- whatever `lexIdentifier` sends for a word that does not start with a dot, it is not a field item -/
theorem emitWord_ok {st : StateId} {s0 : St} (kw : Option Tok) (word : Bytes) (s : St) (h : B inp d lo s) (hd : s0.start + 1 ≤ s.pos) :
    (∀ t, kw = some t → t ≠ Tok.field) → (∃ c rest, word = c :: rest ∧ c ≠ 46) →
    Ok (((match kw with
      | some t => emit t
      | none =>
        match word with
        | [] => crash "index out of range [0] with length 0"
        | c :: _ =>
          if c == 46 then emit Tok.field
          else if word == wordTrue || word == wordFalse then emit Tok.bool
          else emit Tok.identifier : M Unit) >>= fun _ => pure (some StateId.insideAction)) s)
      (Steps inp d st s0) := by
  intro hkw hw
  have key : ∀ t, t ≠ Tok.field → Ok ((emit t >>= fun _ => pure (some StateId.insideAction)) s) (Steps inp d st s0) :=
    fun t ht => Steps.emit_inside t h (fun e => (ht e).elim) hd
  cases kw with
  | some t => exact key t (hkw t rfl)
  | none =>
    obtain ⟨c, rest, rfl, hc⟩ := hw
    dsimp only
    rw [if_neg (by simpa using hc)]
    split <;> exact key _ (by decide)

theorem lexIdentifierLoop_ok (s0 : St) (fuel : Nat) : ∀ (s : St), B inp d s0.start s → Entry .identifier s →
    inp.length - s.pos < fuel → Ok (lexIdentifierLoop fuel s) (Steps inp d .identifier s0) := by
  induction fuel with
  | zero => intro s h _ hr; have := h.posLen; omega
  | succ fuel ih =>
    intro s h he hr
    obtain ⟨⟨b0, tl0, hfirst, hb0⟩, he⟩ := he
    have hw := h.rune
    have hsp := h.startPos
    unfold lexIdentifierLoop
    rw [h.bind_next]
    refine Ok.ite (fun hal => ?_) fun hal => ?_
    · have := hw.2.2 (isSome_of_test rfl hal)
      exact ih _ h.next.toB ⟨⟨b0, tl0, hfirst, hb0⟩, .inl (by cursor_arith)⟩ (by cursor_arith)
    · have hlt : s.start < s.pos := he.resolve_right fun ⟨c, hc, hca⟩ => hal (hc ▸ hca)
      have h4 := h.scratch (runeAt s).2 s.lastType s.parenDepth
      rw [Ok.bind_backup, Ok.bind_get]
      rw [Int.add_sub_cancel, slice_eq h.start0 hsp (h.input ▸ h.posLen), h4.bind_atTerminator]
      refine Ok.ite (fun _ => ?_) fun _ => ?_
      · exact Steps.errorf _ (h4.scratch _ _ _) h.low
      · exact emitWord_ok _ _ _ (h4.scratch _ _ _) (by have := h.low; show s0.start + 1 ≤ s.pos; omega)
          (fun t ht => (kwTok_plain ht).2) ⟨b0, _, seg_eq_cons hfirst hlt, hb0⟩

theorem lexIdentifier_ok (s : St) (h : B inp d lo s) (he : Entry .identifier s) : Ok (lexIdentifier s) (Steps inp d .identifier s) :=
  lexIdentifierLoop_ok s _ s h.here he h.fuel

/-! ### text -/

/-- how much `lexText` trims before a `{{- `: a whitespace run at the end of the pending text -/
theorem trimLength_spec (inp : Bytes) {a b : Int} (c : Prop) [Decidable c] (h0 : 0 ≤ a) (h1 : a ≤ b) (h2 : b ≤ inp.length) :
    ∃ n : Nat, (if c then (rightTrimLength (seg inp a b) : Int) else 0) = n ∧ (n : Int) ≤ b - a ∧
      AllSpace (seg inp (b - n) b) := by
  have hl := seg_length h0 h1 h2
  split
  · have hle := rightTrimLength_le (seg inp a b)
    refine ⟨_, rfl, by omega, ?_⟩
    rw [← seg_drop (a := a) h0 (by omega) (by omega) h2]
    have : (b - ↑(rightTrimLength (seg inp a b)) - a).toNat = (seg inp a b).length - rightTrimLength (seg inp a b) := by
      omega
    rw [this]
    exact allSpace_rightTrim _
  · exact ⟨0, rfl, by omega, by simp [AllSpace]⟩

theorem lexTextEnd_ok (s0 s : St) (h : B inp d s0.start s) : Ok (lexTextLoop.lexTextEnd s) (Steps inp d .text s0) := by
  have hl := h.low
  have hsp := h.startPos
  have h1 := h.emit .text nofun
  unfold lexTextLoop.lexTextEnd
  rw [Ok.bind_get]
  split
  · rw [h.bind_emit, h1.bind_emit, Ok.pure_iff]
    exact Steps.stop (h1.emit .eof nofun) (by cursor_arith)
  · rw [h.bind_emit, Ok.pure_iff]
    exact Steps.stop (h.emit .eof nofun) (by cursor_arith)

theorem lexTextLoop_ok (s0 : St) (fuel : Nat) : ∀ (s : St), B inp d s0.start s → inp.length - s.pos < fuel →
    Ok (lexTextLoop fuel s) (Steps inp d .text s0) := by
  induction fuel with
  | zero => intro s h hr; have := h.posLen; omega
  | succ fuel ih =>
    intro s h hr
    obtain rfl := h.input
    obtain rfl := h.delims
    have hlow := h.low
    have h0 := h.start0
    have hsp := h.startPos
    have hpl := h.posLen
    obtain ⟨ld, ltl, hld⟩ := List.exists_cons_of_ne_nil h.wfd.left
    obtain ⟨lc, lctl, hlc⟩ := List.exists_cons_of_ne_nil h.wfd.lcomment
    unfold lexTextLoop
    rw [Ok.bind_get, h.bind_rest, hld, Ok.bind_firstByte, hlc, Ok.bind_firstByte]
    cases hts : textScanIndex _ ld lc with
    | none => exact lexTextEnd_ok s0 _ (h.move _ (Int.le_trans hsp hpl) (Int.le_refl _))
    | some i =>
      have hi := textScanIndex_lt hts
      rw [List.length_drop] at hi
      have h1 := h.move (s.pos + i) (by omega) (by omega)
      dsimp only
      rw [Ok.bind_modify, Ok.bind_get, h1.bind_rest]
      dsimp only
      refine Ok.ite (fun hl => ?_) fun _ => ?_
      · have hfit := prefix_fits h1.pos0 h1.posLen (hasPrefix_iff.mp hl)
        obtain ⟨n, hn, hn1, hws⟩ := trimLength_spec s.input
          (hasPrefix (List.drop (s.pos + ↑i + ↑(List.length s.d.left)).toNat s.input) leftTrimMarker = true)
          h0 (b := s.pos + i) (by omega) (by omega)
        have h2 := h1.move (s.pos + i - n) (by cursor_arith) (by omega)
        rw [Ok.bind_restAt (by cursor_arith) (by exact hfit), slice_eq h0 (by cursor_arith) (by cursor_arith)]
        dsimp only
        rw [Ok.bind_ite_pure, hn, Ok.bind_modify, Ok.bind_get]
        dsimp only
        split
        · have h3 := (h2.emit .text nofun).move (s.pos + i) (by cursor_arith) (by omega)
          rw [h2.bind_emit, Ok.bind_modify, Ok.bind_ignore, Ok.pure_iff]
          dsimp only
          rw [Int.sub_add_cancel]
          exact Steps.stay .leftDelim (h3.ignore .trimLeft hws) hl rfl (by cursor_arith)
        · have hst : s.start = s.pos + i - n := by cursor_arith
          rw [Ok.bind_modify, Ok.bind_ignore, Ok.pure_iff]
          dsimp only
          rw [Int.sub_add_cancel]
          exact Steps.stay .leftDelim (h1.ignore .trimLeft (hst ▸ hws)) hl rfl (by cursor_arith)
      · refine Ok.ite (fun hc => ?_) fun _ => ?_
        · split
          · rw [h1.bind_emit, Ok.pure_iff]
            exact Steps.stay .comment (h1.emit .text nofun) ⟨hc, rfl⟩ rfl (by cursor_arith)
          · exact Steps.stay .comment h1 ⟨hc, by cursor_arith⟩ rfl hlow
        · have hw := h1.rune
          have h2 := h1.next.toB
          rw [h1.bind_next]
          cases hc : (runeAt { s with pos := s.pos + i }).1 with
          | none => exact lexTextEnd_ok s0 _ h2
          | some c =>
            have := hw.2.2 (hc ▸ rfl)
            exact ih _ h2 (by cursor_arith)

theorem lexText_ok (s : St) (h : B inp d lo s) : Ok (lexText s) (Steps inp d .text s) :=
  lexTextLoop_ok s _ s h.here h.fuel

/-! ### inside an action

    `s0` is the state `lexInsideAction` was entered in. -/

theorem signArm_ok {s0 : St} (excl : List String) (opTok : Tok) (hne : opTok ≠ Tok.field) (s : St) (h : B inp d lo s)
    (hs : s0.start = s.start) (hlt : s.start < s.pos) (hnum : Entry .number { s with width := 1, pos := s.pos - 1 }) :
    Ok (signArm excl opTok s) (Steps inp d .insideAction s0) := by
  have h1 := h.scratch (runeAt s).2 s.lastType s.parenDepth
  unfold signArm
  rw [h.bind_peek, Ok.bind_get]
  refine Ok.ite (fun hcond => ?_) fun _ => ?_
  · obtain ⟨c, hc, hdig⟩ : ∃ c, (runeAt s).1 = some c ∧ 48 ≤ c ∧ c ≤ 57 := by
      cases hc : (runeAt s).1 with
      | none => simp [hc, isDigitRune] at hcond
      | some c => simp [hc, isDigitRune] at hcond; exact ⟨c, rfl, hcond.1⟩
    rw [Ok.bind_backup, Ok.pure_iff]
    rw [(runeAt_ascii s h.pos0 hc (by omega)).1]
    exact Steps.stay .number ((h.move (s.pos - 1) (by omega) (by have := h.posLen; omega)).scratch 1 _ _) hnum rfl (Int.le_of_eq hs)
  · exact Steps.emit_inside _ h1 (fun e => (hne e).elim) (by cursor_arith)

theorem lexInsideAction_ok (s : St) (h : B inp d lo s) (hse : Entry .insideAction s) :
    Ok (lexInsideAction s) (Steps inp d .insideAction s) := by
  have hse : s.start = s.pos := hse
  have h0 := h.pos0
  unfold lexInsideAction
  refine Ok.bind (atRightDelim_ok s h) ?_
  rintro ⟨delim, _⟩ _ ⟨hs, hx, hxn⟩
  rw [hs, Ok.bind_get]
  refine Ok.ite (fun hd => ?_) fun hd => ?_
  · split
    · refine Steps.stay .rightDelim h ⟨hx hd, ?_⟩ rfl (Int.le_refl _)
      show AllSpace (seg s.input s.start s.pos)
      rw [hse, seg_self]
      exact AllSpace.nil
    · exact Steps.errorf _ h (Int.le_refl _)
  have hw := h.rune
  have hn := h.next
  rw [h.bind_next]
  cases hc : (runeAt s).1 with
  | none => exact Steps.errorf _ hn.toB (Int.le_refl _)
  | some c =>
  have hw2 := hw.2.2 (hc ▸ rfl)
  obtain ⟨b0, tl0, hdrop0, hb0⟩ := runeAt_some s h0 hc
  have hasc : c < 128 → c = b0.toNat ∧ (runeAt s).2 = 1 := fun hlt => by
    split at hb0
    · exact hb0
    · omega
  generalize (runeAt s).2 = w at hw hw2 hasc hn ⊢
  have h1 := hn.toB
  have hbk := hn.backup
  have hlt1 : s.start < s.pos + w := by omega
  have hadv : s.start + 1 ≤ s.pos + w := hlt1
  -- the state a `backup` over the rune returns to sees that rune again
  have hback : ∀ w', (runeAt ({ s with width := w', pos := s.pos + w - w } : St)).1 = some c := fun w' => by
    rw [Int.add_sub_cancel]; exact hc
  have hfirst : b0 ≠ 46 → ∃ b tl, s.input.drop s.start.toNat = b :: tl ∧ b ≠ 46 := fun hb => ⟨b0, tl0, hse ▸ hdrop0, hb⟩
  refine Ok.ite (fun c1 => ?_) fun c1 => ?_  -- a space
  · obtain ⟨hcb, rfl⟩ := hasc (isSpace_ascii c1)
    refine Steps.stay .space h1 ⟨by show s.start + 1 = s.pos + 1; omega, ?_, ?_⟩ rfl (Int.le_refl _)
    · show hasPrefix (List.drop s.start.toNat s.input) s.d.trimRight = false
      rw [hse]
      exact hxn (by simpa using hd)
    · -- the one byte pending is the space just read
      rw [pending_snoc s h b0 tl0 _ hdrop0]
      show AllSpace (seg _ _ _ ++ _)
      rw [hse, seg_self]
      exact AllSpace.nil.snoc b0 (by rw [isSpaceByte_toNat, ← hcb]; exact c1)
  refine Ok.ite (fun c2 => ?_) fun c2 => ?_  -- `-`
  · have hc45 : c = 45 := by simpa using c2
    obtain ⟨-, rfl⟩ := hasc (by omega)
    exact signArm_ok _ _ minusTok_plain.2 _ h1 rfl hlt1 ⟨c, hback 1, .inr (.inl hc45)⟩
  refine Ok.ite (fun c3 => ?_) fun c3 => ?_  -- `+`
  · have hc43 : c = 43 := by simpa using c3
    obtain ⟨-, rfl⟩ := hasc (by omega)
    exact signArm_ok _ _ plusTok_plain.2 _ h1 rfl hlt1 ⟨c, hback 1, .inl hc43⟩
  cases hst : singleTok c with
  | some t => exact Steps.emit_inside t h1 (fun e => ((singleTok_plain hst).2 e).elim) hadv
  | none =>
  cases htt : twoTok c with
  | some tri =>
    obtain ⟨d2, both, single⟩ := tri
    obtain ⟨hboth, tsingle, rfl, htsingle⟩ := twoTok_plain htt
    have hv := h1.rune
    have hn2 := h1.next
    rw [h1.bind_next]
    generalize (runeAt ({ s with width := w, pos := s.pos + w } : St)).2 = v at hv hn2 ⊢
    split
    · exact Steps.emit_inside _ hn2.toB (fun e => (hboth.2 e).elim) (Int.le_trans hadv (Int.le_add_of_nonneg_right hv.1))
    · rw [Ok.bind_backup]
      exact Steps.emit_inside _ hn2.backup (fun e => (htsingle.2 e).elim) (show _ ≤ s.pos + w + v - v by omega)
  | none =>
  refine Ok.ite (fun c5 => ?_) fun c5 => ?_  -- `"`
  · exact Steps.stay .quote h1 hlt1 rfl (Int.le_refl _)
  refine Ok.ite (fun c6 => ?_) fun c6 => ?_  -- a backquote
  · exact Steps.stay .rawQuote h1 hlt1 rfl (Int.le_refl _)
  refine Ok.ite (fun c7 => ?_) fun c7 => ?_  -- `'`
  · exact Steps.stay .char h1 hlt1 rfl (Int.le_refl _)
  refine Ok.ite (fun c8 => ?_) fun c8 => ?_  -- `.`
  · rw [Ok.bind_get]
    have hc46 : c = 46 := by simpa using c8
    obtain ⟨hcb, rfl⟩ := hasc (by omega)
    have hb46 : b0 = 46 := UInt8.toNat_inj.mp (by rw [← hcb, hc46]; rfl)
    -- the look-ahead behind the dot, whatever it answers
    refine Ok.ite (fun _ => ?_) fun _ => ?_
    · exact Steps.stay .field h1 ⟨by show s.start + 1 = s.pos + 1; omega, tl0, by rw [hse, hdrop0, hb46]⟩ rfl (Int.le_refl _)
    · rw [Ok.bind_backup]
      exact Steps.stay .number hbk ⟨c, hback 1, .inr (.inr (.inl hc46))⟩ rfl (Int.le_refl _)
  refine Ok.ite (fun c9 => ?_) fun c9 => ?_  -- a digit
  · rw [Ok.bind_backup]
    simp only [Bool.and_eq_true, decide_eq_true_eq] at c9
    exact Steps.stay .number hbk ⟨c, hback w, .inr (.inr (.inr c9))⟩ rfl (Int.le_refl _)
  have hnd : b0 ≠ 46 := fun hb => by rw [hb, if_pos (by decide)] at hb0; exact c8 (by simp [hb0.1])
  refine Ok.ite (fun c10 => ?_) fun c10 => ?_  -- `_`
  · rw [h1.bind_peek]
    split
    · exact Steps.emit_inside _ (h1.scratch _ _ _) nofun hadv
    · exact Steps.stay .identifier (h1.scratch _ _ _) ⟨hfirst hnd, .inl hlt1⟩ rfl (Int.le_refl _)
  refine Ok.ite (fun c11 => ?_) fun c11 => ?_  -- alphanumeric
  · rw [Ok.bind_backup]
    exact Steps.stay .identifier hbk ⟨hfirst hnd, .inr ⟨c, hback w, c11⟩⟩ rfl (Int.le_refl _)
  refine Ok.ite (fun c12 => ?_) fun c12 => ?_  -- `(`
  · rw [h1.bind_emit, Ok.bind_modify, Ok.pure_iff]
    exact Steps.moved .insideAction ((h1.emit .leftParen nofun).scratch _ _ _) rfl hadv
  refine Ok.ite (fun c13 => ?_) fun c13 => ?_  -- `)`
  · rw [h1.bind_emit, Ok.bind_modify, Ok.bind_get]
    have h3 := (h1.emit .rightParen nofun).scratch w .rightParen (s.parenDepth - 1)
    split
    · exact Steps.errorf _ h3 (Int.le_of_lt hlt1)
    · exact Steps.moved .insideAction h3 rfl hadv
  split
  · exact Steps.emit_inside _ h1 nofun hadv
  · exact Steps.errorf _ h1 (Int.le_refl _)

/-! ### the state machine -/

theorem step_ok (st : StateId) (s : St) (h : B inp d lo s) (he : Entry st s) : Ok (step st s) (Steps inp d st s) := by
  cases st with
  | text => exact lexText_ok s h
  | leftDelim => exact lexLeftDelim_ok s h he
  | comment => exact lexComment_ok s h he
  | rightDelim => exact lexRightDelim_ok s h he
  | insideAction => exact lexInsideAction_ok s h he
  | space => exact lexSpace_ok s h he
  | identifier => exact lexIdentifier_ok s h he
  | field => exact lexField_ok s h he
  | char => exact lexChar_ok s h he
  | number => exact lexNumber_ok s h he
  | quote => exact lexQuote_ok s h he
  | rawQuote => exact lexRawQuote_ok s h he

/-- events of an outcome, oldest first: the function that Lemmas/LexInv.lean, which this module does not import,
    defines as `Outcome.events` -/
def Outcome.evs : Outcome → List Event
  | .done e => e
  | .crash _ e => e
  | .outOfFuel e => e

/-! ### the state machine ends: a potential that every step lowers -/

/-- hand-overs that consume nothing go down in rank: `text` > `insideAction` > `space` > the rest -/
def rank : StateId → Nat
  | .text => 3
  | .insideAction => 2
  | .space => 1
  | _ => 0

/-- four units per byte not yet emitted or ignored, plus the rank of the state -/
def potential (st : StateId) (s : St) : Nat := 4 * (s.input.length - s.start).toNat + rank st

/-- a hand-over that moves `start` by less than one byte goes down in rank -/
theorem rank_delta (st st' : StateId) : (rank st' : Int) < rank st + 4 * delta st (some st') := by
  cases st <;> cases st' <;> decide

theorem potential_step (st st' : StateId) (s s' : St) (h : B inp d lo s) (hs : Steps inp d st s (some st') s') :
    potential st' s' < potential st s := by
  have h1 := hs.1.low
  have h2 := Int.le_trans hs.1.startPos hs.1.posLen
  have h3 := rank_delta st st'
  unfold potential
  rw [hs.1.input, h.input]
  omega

theorem initial_B (dl : Delims) (hd : WfD dl) (input : Bytes) : B input dl 0 { input := input, d := dl } :=
  ⟨rfl, rfl, hd, Int.le_refl 0, Int.le_refl 0, Int.natCast_nonneg _, List.forall_mem_nil _, List.forall_mem_nil _, Int.le_refl 0,
    List.forall_mem_nil _⟩

/-- run with fuel above the potential from a state satisfying the invariant, the machine finishes, and every
    event of its log lies inside the source, is a well-formed field item if it is one, and drops only what
    its `ignore` site may drop -/
theorem runLoop_done : ∀ (fuel : Nat) (st : StateId) (s : St), B inp d 0 s → Entry st s → potential st s < fuel →
    ∃ evs, runLoop fuel st s = .done evs ∧ ∀ e ∈ evs, EvOk inp.length e ∧ FieldEv e ∧ IgnEv inp d e
  | 0, _, _, _, _, hp => by omega
  | fuel + 1, st, s, h, he, hp => by
    have hs := step_ok st s h he
    unfold runLoop
    cases hst : step st s with
    | crash msg s' => rw [hst] at hs; exact hs.elim
    | ok r s' =>
      rw [hst] at hs
      cases r with
      | none =>
        refine ⟨_, rfl, fun e he => ?_⟩
        rw [List.mem_reverse] at he
        exact ⟨hs.1.events e he, hs.1.fields e he, hs.1.ign e he⟩
      | some st' =>
        have := potential_step st st' s s' h hs
        exact runLoop_done fuel st' s' (hs.1.relo 0 hs.1.start0) (hs.2 st' rfl) (by omega)

/-- the lexer under any delimiter record that `setDelimiters` / `setCommentDelimiters` can produce -/
theorem lexRun_done (hd : WfD d) (input : Bytes) :
    ∃ evs, lexRun d input = .done evs ∧ ∀ e ∈ evs, EvOk input.length e ∧ FieldEv e ∧ IgnEv input d e :=
  runLoop_done _ .text _ (initial_B d hd input) trivial (by simp only [potential, rank]; omega)

end JetVerif.Lex
