/-
  Every function of the evaluator model satisfies `Good` (see EvalInv.lean), for every level of
  the fuel-indexed recursion.  `Good` is a `WalkAll` (Lemmas/EvalWalk.lean): for the plumbing,
  `Good (f r env …)` is `walk_f Good.walk hr.ok env …`.  Proved here: the content closure, `try`,
  and the let-scope of a statement list.
-/
import JetVerif.Lemmas.EvalInv
import JetVerif.Lemmas.EvalWalk

namespace JetVerif.Eval

structure RecGood (r : Rec) : Prop where
  evalExpr : ∀ env e, Good (r.evalExpr env e)
  execList : ∀ env l, Good (r.execList env l)
  isSetE : ∀ env e, Good (r.isSetE env e)

theorem recGood_bottom : RecGood Rec.bottom :=
  ⟨fun _ _ => good_outOfFuel, fun _ _ => good_outOfFuel, fun _ _ => good_outOfFuel⟩

/-- `Good` tolerates every crash message: it only says what a panic leaves behind -/
theorem Good.walk : WalkAll (fun _ => True) @Good where
  bind := Good.bind
  liftP p _ := good_liftP p
  reads := good_reads
  emits := good_emits
  modifyLog := good_modify_log
  letVar := good_letVar
  setValue := good_setValue
  letGlobal := good_letGlobal
  withNewScopeND := good_withNewScopeND
  withNewScopeD := good_withNewScopeD
  withCtxND := good_withCtxND
  withCtxD := good_withCtxD
  discard := good_withWriterD_discard
  recoverFalse := good_recoverFalse
  setBlocks := good_setBlocks
  sites _ _ := trivial

variable {r : Rec}

theorem RecGood.ok (hr : RecGood r) : RecOk @Good r := ⟨hr.evalExpr, hr.execList, hr.isSetE⟩

theorem good_invokeContent (hr : RecGood r) (env : Env) (c : Closure) (ctxE : Option Expr) :
    Good (invokeContent r env c ctxE) := by
  cases c with
  | mk body sc outer =>
    exact good_withScopeContentD sc outer
      (yieldRun_ok Good.walk.toWalk body ctxE (fun e _ => hr.evalExpr env e) (hr.execList env body))

theorem good_yieldBody (hr : RecGood r) (env : Env) (block : BlockN) (ctxE : Option Expr)
    (content : Option (List Stmt)) : Good (yieldBody r env block ctxE content) := by
  have run := yieldRun_ok Good.walk.toWalk block.body ctxE (fun e _ => hr.evalExpr env e) (hr.execList env _)
  unfold yieldBody
  refine Good.walk.getRT.bind fun rt => ?_
  cases content <;> exact good_withContentND _ run

theorem good_execYield (hr : RecGood r) (env : Env) (loc : Loc) (name : Bytes) (params : Option (List Param))
    (ctxE : Option Expr) (content : Option (List Stmt)) (isContent : Bool) :
    Good (execYield r env loc name params ctxE content isContent) := by
  have W := Good.walk
  unfold execYield
  refine W.ite (W.bind W.getRT fun rt => ?_) (W.bind (W.getBlock name) fun o => ?_)
  · split
    · exact good_invokeContent hr env _ ctxE
    · exact W.pure _
  · split
    · exact W.errAt _ _
    · split
      · exact W.site _ (by simp [siteMsgs])
      · exact walk_executeYieldBlock W hr.ok env (good_yieldBody hr env) _ _ _ _ _ _

theorem wf_tryStart (rt : RT) : WF (tryStart rt) := by
  intro k hk
  simp [tryStart, Wr.idx] at hk
  subst hk
  exact Nat.le_refl _

theorem tryStart_old_untouched {rt rt2 : RT} (e : Ext (tryStart rt) rt2) (k : Nat) (hk : k ≤ rt.nbufs) :
    rt2.sink k = rt.sink k := by
  have h1 : rt2.sink k = (tryStart rt).sink k := by
    apply e.other k
    · simp [tryStart]; omega
    · simp [tryStart, Wr.idx]; omega
  rw [h1]
  have : k ≠ rt.nbufs + 1 := by omega
  simp [tryStart, this]

theorem tryStart_nbufs {rt rt2 : RT} (e : Ext (tryStart rt) rt2) : rt.nbufs ≤ rt2.nbufs := by
  have := e.nbufs
  simp [tryStart] at this
  omega

/-- after a failed body, nothing of it is visible: sinks, scope, context, content, writer -/
theorem tryReset_ext {rt rt2 : RT} (hwf : WF rt) (e : Ext (tryStart rt) rt2) :
    Ext rt (tryReset rt rt2) ∧ Rest rt (tryReset rt rt2) := by
  have hn : rt.nbufs ≤ rt2.nbufs := tryStart_nbufs e
  have ho : ∀ k, k ≤ rt.nbufs → rt2.sink k = rt.sink k := fun k hk => tryStart_old_untouched e k hk
  exact ⟨⟨rfl, hn, fun k hk => ⟨[], ho k (hwf k hk)⟩, fun k hk _ => ho k hk⟩, ⟨rfl, rfl, rfl⟩⟩

/-- copying the try buffer to the saved destination extends exactly that destination -/
theorem tryCopy_ext {rt rt2 : RT} (hwf : WF rt) (e : Ext (tryStart rt) rt2) (cs : List Chunk) :
    Ext rt (appendTo { rt2 with writer := rt.writer } rt.writer cs) :=
  -- with the writer put back nothing of the body is visible (`tryReset_ext`); then the copy is one `appendTo`
  ((tryReset_ext hwf e).1.congr_right (b' := { rt2 with writer := rt.writer }) rfl rfl rfl).trans (ext_appendTo _ cs)

theorem good_executeTry (hr : RecGood r) (env : Env) (body : List Stmt) (hasCatch : Bool)
    (cv : Option Bytes) (cb : Option (List Stmt)) : Good (executeTry r env body hasCatch cv cb) := by
  refine ⟨fun rt hwf => sat_executeTry ?_⟩
  have handler : ∀ {rt2}, Ext (tryStart rt) rt2 → ∀ errVal,
      Post rt (tryCatch r env hasCatch cv cb errVal (tryReset rt rt2)) := fun e errVal =>
    have ⟨eb, rb⟩ := tryReset_ext hwf e
    eb.then rb ((walk_tryCatch Good.walk hr.ok env hasCatch cv cb errVal).post _ (eb.wf hwf))
  -- success: the buffer is copied to the saved destination
  exact Res.Sat.mono ((hr.execList env body).post (tryStart rt) (wf_tryStart rt))
    (fun _ rt2 hb => ⟨tryCopy_ext hwf hb.1 _, Rest.trans (b := { rt2 with writer := rt.writer })
      ⟨hb.2.scope, hb.2.ctx, hb.2.content⟩ (rest_appendTo _ _ _)⟩)
    (fun _ => handler) (fun _ _ => handler)

/-! ### statement lists: the let-scope a list opens is released by a deferred function -/

/-- relation between the let-scope flag of a list and its scope chain -/
def OpenRel (b b' : Bool) (rt rt' : RT) : Prop :=
  (b' = b ∧ rt'.scope = rt.scope) ∨ (b = false ∧ b' = true ∧ rt'.scope.tail = rt.scope)

theorem OpenRel.trans {b b1 b2 : Bool} {rt rt1 rt2 : RT} (o1 : OpenRel b b1 rt rt1) (o2 : OpenRel b1 b2 rt1 rt2) :
    OpenRel b b2 rt rt2 := by
  rcases o1 with ⟨hb1, hs1⟩ | ⟨hb1, hb1', hs1⟩
  · rcases o2 with ⟨hb2, hs2⟩ | ⟨hb2, hb2', hs2⟩
    · exact .inl ⟨hb2.trans hb1, hs2.trans hs1⟩
    · exact .inr ⟨hb1 ▸ hb2, hb2', by rw [hs2]; exact hs1⟩
  · rcases o2 with ⟨hb2, hs2⟩ | ⟨hb2, hb2', hs2⟩
    · exact .inr ⟨hb1, hb2.trans hb1', by rw [hs2]; exact hs1⟩
    · rw [hb1'] at hb2; cases hb2

/-- outcome of something that may open the list's let-scope; `flag` reads the flag afterwards out of the result -/
def PostFlag {α} (flag : α → Bool) (b : Bool) (rt : RT) : Res α → Prop :=
  Res.Sat (fun x rt' => Ext rt rt' ∧ rt'.ctx = rt.ctx ∧ rt'.content = rt.content ∧ OpenRel b (flag x) rt rt')
    (Ext rt) (fun _ => Ext rt)

theorem postFlag_keep {α} {m : M α} (hm : Good m) (k : α → Val × Val) (b : Bool) (rt : RT) (hwf : WF rt) :
    PostFlag (·.2.2) b rt ((m >>= fun a => pure ((k a).1, (k a).2, b)) rt) :=
  sat_bind.mpr <| Res.Sat.mono (hm.post rt hwf) (fun _ _ h => ⟨h.1, h.2.ctx, h.2.content, .inl ⟨rfl, h.2.scope⟩⟩)
    (fun _ h => h) (fun _ _ h => h)

theorem postFlag_open {α} {m : M α} (hm : Good m) (k : α → Val × Val) (rt : RT) (hwf : WF rt) :
    PostFlag (·.2.2) false rt ((newScope >>= fun _ => m >>= fun a => pure ((k a).1, (k a).2, true)) rt) := by
  refine sat_newScope_bind (fun rt1 hs hsame => ?_) fun _ => Ext.refl rt
  refine sat_bind.mpr <| Res.Sat.mono (hm.post rt1 (hsame.wf hwf)) (fun _ rt2 h => ?_)
    (fun _ h => Ext.of_left hsame h) (fun _ _ h => Ext.of_left hsame h)
  exact ⟨Ext.of_left hsame h.1, h.2.ctx.trans hsame.1, h.2.content.trans hsame.2.1,
    .inr ⟨rfl, rfl, by rw [h.2.scope]; exact hs⟩⟩

def PostStmt (b : Bool) (rt : RT) : Res (Val × Val × Bool) → Prop
  | .ok x rt' => Ext rt rt' ∧ rt'.ctx = rt.ctx ∧ rt'.content = rt.content ∧ OpenRel b x.2.2 rt rt'
  | .err _ rt' => Ext rt rt'
  | .crash _ rt' => Ext rt rt'
  | _ => True

theorem postStmt_of_good {m : M Val} (hm : Good m) (f : Val → Val × Val) (b : Bool) (rt : RT) (hwf : WF rt) :
    PostStmt b rt ((do let v ← m; pure ((f v).1, (f v).2, b) : M (Val × Val × Bool)) rt) := by
  have h := postFlag_keep hm f b rt hwf
  revert h
  cases (m >>= fun v => pure ((f v).1, (f v).2, b)) rt <;> exact id

theorem post_execStmt (hr : RecGood r) (env : Env) (b : Bool) (s : Stmt) (rt : RT) (hwf : WF rt) :
    PostFlag (·.2.2) b rt (execStmt r env b s rt) := by
  obtain ⟨α, m, k, hm, e⟩ := execStmt_shape Good.walk hr.ok env (good_yieldBody hr env)
    (good_execYield hr env) (good_executeTry hr env) b s
  rw [e]
  split
  · next ho =>
    cases b
    · exact postFlag_open hm k rt hwf
    · cases ho
  · exact postFlag_keep hm k b rt hwf

theorem ext_popIf (c : Bool) {a b : RT} (e : Ext a b) : Ext a (if c then popScope b else b) := by
  cases c
  · exact e
  · exact Ext.of_right (popScope_fields b).2.2 e

theorem post_execListGo (hr : RecGood r) (env : Env) :
    ∀ (l : List Stmt) (rv : Val) (b : Bool) (rt : RT), WF rt → PostFlag (·.2) b rt (execListGo r env l rv b rt)
  | [], _, _, rt, _ => ⟨Ext.refl rt, rfl, rfl, .inl ⟨rfl, rfl⟩⟩
  | s :: rest, _, b, rt, hwf =>
    sat_execListGo_cons.mpr <| Res.Sat.mono (post_execStmt hr env b s rt hwf)
      (fun _ rt1 h1 => Res.Sat.mono (post_execListGo hr env rest _ _ rt1 (h1.1.wf hwf))
        (fun _ _ h2 => ⟨h1.1.trans h2.1, h2.2.1.trans h1.2.1, h2.2.2.1.trans h1.2.2.1, h1.2.2.2.trans h2.2.2.2⟩)
        (fun _ h2 => h1.1.trans h2) (fun _ _ h2 => h1.1.trans h2))
      (fun _ h1 => ext_popIf _ h1) (fun _ _ h1 => ext_popIf _ h1)

theorem good_execListF (hr : RecGood r) (env : Env) (l : List Stmt) : Good (execListF r env l) := by
  refine ⟨fun rt hwf => sat_execListF.mpr ?_⟩
  refine Res.Sat.mono (post_execListGo hr env l .invalid false rt hwf) (fun x rt1 h => ?_) (fun _ h => h) (fun _ _ h => h)
  obtain ⟨e1, c1, ct1, o1⟩ := h
  rcases o1 with ⟨hb, hs⟩ | ⟨_, hb', hs⟩
  · rw [show x.2 = false from hb]; exact ⟨e1, ⟨hs, c1, ct1⟩⟩
  · rw [show x.2 = true from hb']
    obtain ⟨ps, _, psame⟩ := popScope_fields rt1
    exact ⟨Ext.of_right psame e1, ⟨ps.trans hs, psame.1.trans c1, psame.2.1.trans ct1⟩⟩

theorem recGood_step (hr : RecGood r) : RecGood (stepRec r) :=
  ⟨fun env e => walk_evalExprF Good.walk hr.ok env e, fun env l => good_execListF hr env l, fun env e => walk_isSetF Good.walk hr.ok env e⟩

theorem recGood_recAt : ∀ n, RecGood (recAt n)
  | 0 => recGood_bottom
  | n + 1 => recGood_step (recGood_recAt n)

end JetVerif.Eval
