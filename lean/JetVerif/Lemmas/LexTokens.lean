/-
  What the regenerated tables of lex.go (tie A: single-rune switch, two-rune operators, keyword map, the
  two sign arms) can put into an item: never the end-of-file type and never the field type.  `tokOf` looks a
  type up by its Go name, so the tables are compared as strings.
-/
import JetVerif.Model.Lex

namespace JetVerif.Lex

/-- a type other than `itemError` came out of `tokOf` by its own name -/
theorem tokOf_name {n : String} {t : Tok} (h : tokOf n = t) (ht : t ≠ Tok.error) : n = t.name := by
  unfold tokOf Tok.ofName at h
  cases hf : Tok.all.find? (fun t => t.name == n) with
  | none => rw [hf] at h; exact (ht h.symm).elim
  | some t' =>
    rw [hf] at h
    cases (h : t' = t)
    have := List.find?_some hf
    exact (eq_of_beq this).symm

/-- neither the end-of-file item (sent once, by `lexText`, just before the machine stops) nor a field item
    (whose value must be a dot and a byte) -/
def Plain (t : Tok) : Prop := t ≠ Tok.eof ∧ t ≠ Tok.field

theorem plain_of_name {n : String} (h1 : n ≠ "itemEOF") (h2 : n ≠ "itemField") : Plain (tokOf n) :=
  ⟨fun h => h1 (tokOf_name h (by decide)), fun h => h2 (tokOf_name h (by decide))⟩

theorem singleCharToks_plain : ∀ p ∈ Facts.singleCharToks, Plain (tokOf p.2) := by
  intro p hp
  refine plain_of_name ?_ ?_ <;> revert p <;> decide

theorem twoCharToks_plain : ∀ p ∈ Facts.twoCharToks, Plain (tokOf p.2.2.1) ∧ Plain (tokOf p.2.2.2) ∧ p.2.2.2 ≠ "" := by
  intro p hp
  refine ⟨plain_of_name ?_ ?_, plain_of_name ?_ ?_, ?_⟩ <;> revert p <;> decide

theorem keywords_plain : ∀ p ∈ Facts.keywords, Plain (tokOf p.2) := by
  intro p hp
  refine plain_of_name ?_ ?_ <;> revert p <;> decide

theorem minusTok_plain : Plain (tokOf Facts.minusTok) := plain_of_name (by decide) (by decide)
theorem plusTok_plain : Plain (tokOf Facts.plusTok) := plain_of_name (by decide) (by decide)

theorem singleTok_plain {c : Nat} {t : Tok} (h : singleTok c = some t) : Plain t := by
  obtain ⟨p, hf, rfl⟩ := Option.map_eq_some_iff.mp h
  exact singleCharToks_plain p (List.mem_of_find?_eq_some hf)

/-- both items of a two-rune operator are plain, and the table gives every first rune an item of its own -/
theorem twoTok_plain {c d : Nat} {both : Tok} {single : Option Tok} (h : twoTok c = some (d, both, single)) :
    Plain both ∧ ∃ t, single = some t ∧ Plain t := by
  obtain ⟨p, hf, h⟩ := Option.map_eq_some_iff.mp h
  obtain ⟨h1, h2, h3⟩ := twoCharToks_plain p (List.mem_of_find?_eq_some hf)
  simp only [Prod.mk.injEq, h3, beq_iff_eq, if_false] at h
  exact ⟨h.2.1 ▸ h1, _, h.2.2.symm, h2⟩

theorem keyTok_plain {word : Utf8.Bytes} {t : Tok} (h : keyTok word = some t) : Plain t := by
  obtain ⟨p, hf, rfl⟩ := Option.map_eq_some_iff.mp h
  exact keywords_plain p (List.mem_of_find?_eq_some hf)

/-- the keyword item `lexIdentifier` sends for a word, if it sends one -/
theorem kwTok_plain {word : Utf8.Bytes} {t : Tok}
    (h : (match keyTok word with
      | some t => if t.code > Tok.keyword.code then some t else none
      | none => none) = some t) : Plain t := by
  split at h
  · rename_i t' hk
    split at h
    · cases h
      exact keyTok_plain hk
    · cases h
  · cases h

end JetVerif.Lex
