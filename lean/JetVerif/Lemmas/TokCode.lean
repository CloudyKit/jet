/-
  Go's numeric item codes (`Tok.code`, looked up by name in the regenerated const block) are the
  constructor indices of `Tok`.  This is the one finite table about codes; the range tests the parser
  makes on them follow from it by arithmetic.
-/
import JetVerif.Model.Tok

namespace JetVerif.Tok

/-- The const block of lex.go lists the item types in the order of `Tok`'s constructors.  One lookup by
    name per constructor, run by the kernel (`Tok.code` compares strings, which is slow in `Meta.whnf`). -/
theorem code_eq (t : Tok) : t.code = t.ctorIdx := by
  have h : ∀ i, i < 57 → (ofNat i).code = (ofNat i).ctorIdx := by decide +kernel
  have := h t.ctorIdx (by cases t <;> decide)
  rwa [ofNat_ctorIdx] at this

theorem eq_iff_ctorIdx {a b : Tok} : a = b ↔ a.ctorIdx = b.ctorIdx :=
  ⟨congrArg _, fun h => by rw [← ofNat_ctorIdx a, h, ofNat_ctorIdx]⟩

/-- tie A: the `>= itemMul && <= itemMod` range test of multiplicativeExpression selects exactly
    `* / %` in the regenerated constant order (three consecutive codes) -/
theorem mul_range (t : Tok) : (mul.code ≤ t.code ∧ t.code ≤ mod.code) ↔ (t = mul ∨ t = div ∨ t = mod) := by
  simp only [code_eq, eq_iff_ctorIdx]
  show 29 ≤ _ ∧ _ ≤ 31 ↔ _ = 29 ∨ _ = 30 ∨ _ = 31
  omega

/-- tie A: the `>= itemGreat && <= itemLessEquals` range test selects exactly `> >= < <=` -/
theorem rel_range (t : Tok) : (great.code ≤ t.code ∧ t.code ≤ lessEquals.code) ↔
    (t = great ∨ t = greatEquals ∨ t = less ∨ t = lessEquals) := by
  simp only [code_eq, eq_iff_ctorIdx]
  show 21 ≤ _ ∧ _ ≤ 24 ↔ _ = 21 ∨ _ = 22 ∨ _ = 23 ∨ _ = 24
  omega

end JetVerif.Tok
