/- every property module; the models and lemmas they rest on come with them -/
import JetVerif.Props.C01
import JetVerif.Props.C02
import JetVerif.Props.C02H
import JetVerif.Props.C02L
import JetVerif.Props.C02P
import JetVerif.Props.C03
import JetVerif.Props.C03D
import JetVerif.Props.C03E
import JetVerif.Props.C04
import JetVerif.Props.C04P
import JetVerif.Props.C05
import JetVerif.Props.C05E
import JetVerif.Props.C05P
import JetVerif.Props.C05R
import JetVerif.Props.C06
import JetVerif.Props.C07
import JetVerif.Props.C08
import JetVerif.Props.C09
import JetVerif.Props.C10
import JetVerif.Props.C11
import JetVerif.Props.C12
import JetVerif.Props.C12L
import JetVerif.Props.C12S
import JetVerif.Props.C12T
import JetVerif.Props.C12W
import JetVerif.Props.C13
import JetVerif.Props.C14
import JetVerif.Props.C15
import JetVerif.Props.C16
import JetVerif.Props.C17
import JetVerif.Props.C18
import JetVerif.Props.C19
import JetVerif.Props.C20
import JetVerif.Props.Restore
